/- Gate lemmas: "accepted ⇒ every validated field has an accepted value", for the non-disk parsers and the Parallels HDD
   directory.  A parser's `open` is a chain of steps (read a value, check a gate, go on); from `open … = .ok r` the step
   lemmas of `HvProofs.Outcome` give, one step at a time, that the step succeeded and what is left of the chain.
   A lemma named `…_ok` is the inversion of a success: from `f … = .ok r` to what `f` has checked (`hyperv_log_ok` for
   `checkReplayLog`, `keystore_stored_ok` for `storedOf`, `keysafe_locator_ok` for `parseLocator`, …); the converse direction,
   an input that is refused, is named `…_unknown`, `…_missing`, `…_error`. -/
import HvProofs.HyperVTree
import Hv.Envelope
import Hv.Vmtar
import Hv.HddOpen
import HvProofs.Vmx
import HvProofs.Envelope
import HvProofs.Outcome
namespace Hv.Gates

section hyperv
open Hv Hv.HyperV Hv.Extracted.hyperv

theorem hyperv_log_ok (f : File) (off : Nat) (h : checkReplayLog f off = .ok ()) :
    f.field off LOG HyperVStorageReplayLog.signature = .ok SIGNATURE_REPLAY_LOG_HEADER := by
  unfold checkReplayLog at h
  exact ok_of_read_gate h

theorem hyperv_object_table_ok (f : File) (off : Nat) (es : List ObjEntry) (h : loadObjectTable f off = .ok es) :
    f.field off OTH HyperVStorageObjectTable.signature = .ok SIGNATURE_OBJECT_TABLE_HEADER := by
  unfold loadObjectTable at h
  exact ok_of_read_gate h

theorem hyperv_key_table_ok (raw : Bytes) (size : Nat) (t : KeyTable) (h : parseKeyTable raw size = .ok t) :
    bfield raw HyperVStorageKeyTable.signature = SIGNATURE_KEY_TABLE_HEADER := by
  unfold parseKeyTable at h
  obtain ⟨_, h⟩ := ok_of_gate h
  exact (ok_of_ne_gate h).1

/-- the gates one allocated object-table entry passes inside the walk.  The third gate of an entry, the signature of a nested
    object table, depends on the state of the walk (a table is loaded once per offset: `visited`) and is therefore not part
    of this predicate: `hyperv_stepObj_ok` and `hyperv_stepEntry_ok` state it beside, the induction over a whole table
    (`hyperv_stepEntries_ok`) keeps `EntryGates` only. -/
def EntryGates (f : File) (e : ObjEntry) : Prop :=
  (e.typ = otKeyTable → bfield (f.read e.offset e.size) HyperVStorageKeyTable.signature = SIGNATURE_KEY_TABLE_HEADER) ∧
  (e.typ = otReplayLog → f.field e.offset LOG HyperVStorageReplayLog.signature = .ok SIGNATURE_REPLAY_LOG_HEADER)

theorem hyperv_stepReg_ok (f : File) (e : ObjEntry) (r r' : Reg) (h : stepReg f e r = .ok r') : EntryGates f e := by
  unfold stepReg at h
  obtain ⟨r1, e1, h⟩ := bind_ok h
  obtain ⟨r2, _, h⟩ := bind_ok h
  constructor
  · intro hk
    rw [if_pos hk] at e1
    cases hp : parseKeyTable (f.read e.offset e.size) e.size with
    | error x => rw [hp] at e1; cases e1
    | ok t => exact hyperv_key_table_ok _ _ t hp
  · intro hl
    rw [if_pos hl] at h
    cases hc : checkReplayLog f e.offset with
    | error x => rw [hc] at h; cases h
    | ok u => cases u; exact hyperv_log_ok f e.offset hc

theorem hyperv_stepObj_ok (f : File) (e : ObjEntry) (w w' : Walk) (h : stepObj f e w = .ok w') :
    (e.typ = otObjectTable → ¬ w.visited.contains e.offset →
      f.field e.offset OTH HyperVStorageObjectTable.signature = .ok SIGNATURE_OBJECT_TABLE_HEADER) ∧
    ∃ new, w'.pending = w.pending ++ new := by
  unfold stepObj at h
  by_cases hc : e.typ = otObjectTable ∧ ¬ w.visited.contains e.offset
  · rw [if_pos hc] at h
    cases hl : loadObjectTable f e.offset with
    | error x => rw [hl] at h; cases h
    | ok es =>
      rw [hl] at h
      cases h
      exact ⟨fun _ _ => hyperv_object_table_ok f e.offset es hl, _, rfl⟩
  · rw [if_neg hc] at h
    cases h
    exact ⟨fun ht hv => absurd ⟨ht, hv⟩ hc, [], by simp⟩

theorem hyperv_stepEntry_ok (f : File) (e : ObjEntry) (w w' : Walk) (h : stepEntry f e w = .ok w') :
    (e.allocated ≠ 0 → EntryGates f e ∧
      (e.typ = otObjectTable → ¬ w.visited.contains e.offset →
        f.field e.offset OTH HyperVStorageObjectTable.signature = .ok SIGNATURE_OBJECT_TABLE_HEADER)) ∧
    ∃ new, w'.pending = w.pending ++ new := by
  rcases HyperV.stepEntry_ok h with ⟨ha, rfl⟩ | ⟨w1, r, ho, hr, rfl⟩
  · exact ⟨fun hn => absurd ha hn, [], by simp⟩
  · exact ⟨fun _ => ⟨hyperv_stepReg_ok f e _ _ hr, (hyperv_stepObj_ok f e w w1 ho).1⟩, (hyperv_stepObj_ok f e w w1 ho).2⟩

theorem hyperv_stepEntries_ok (f : File) (es : List ObjEntry) (w w' : Walk) (h : stepEntries f es w = .ok w') :
    (∀ e ∈ es, e.allocated ≠ 0 → EntryGates f e) ∧ ∃ new, w'.pending = w.pending ++ new := by
  induction es generalizing w with
  | nil => unfold stepEntries at h; cases h; exact ⟨by simp, [], by simp⟩
  | cons e es ih =>
    unfold stepEntries at h
    cases h1 : stepEntry f e w with
    | error x => rw [h1] at h; cases h
    | ok w1 =>
      rw [h1] at h
      simp only at h
      obtain ⟨hg, new2, hp2⟩ := ih w1 h
      obtain ⟨new1, hp1⟩ := (hyperv_stepEntry_ok f e w w1 h1).2
      refine ⟨?_, new1 ++ new2, by rw [hp2, hp1, List.append_assoc]⟩
      intro e' he' ha
      rcases List.mem_cons.mp he' with rfl | hm
      · exact ((hyperv_stepEntry_ok f e' w w1 h1).1 ha).1
      · exact hg e' hm ha

theorem hyperv_walk_ok (f : File) (fuel : Nat) (w : Walk) (r : Reg) (h : walkTables f fuel w = .ok r) :
    ∀ es ∈ w.pending, ∀ e ∈ es, e.allocated ≠ 0 → EntryGates f e := by
  induction fuel generalizing w with
  | zero =>
    unfold walkTables at h
    split at h
    · rename_i hp; intro es hes; rw [hp] at hes; cases hes
    · cases h
  | succ fuel ih =>
    unfold walkTables at h
    split at h
    · rename_i hp; intro es hes; rw [hp] at hes; cases hes
    · rename_i es0 rest hp
      cases hs : stepEntries f es0 { w with pending := rest } with
      | error x => rw [hs] at h; cases h
      | ok w1 =>
        rw [hs] at h
        simp only at h
        obtain ⟨hg, new, hpn⟩ := hyperv_stepEntries_ok f es0 _ w1 hs
        intro es hes
        rw [hp] at hes
        rcases List.mem_cons.mp hes with rfl | hm
        · exact hg
        · exact ih w1 h es (by rw [hpn]; exact List.mem_append_left _ hm)

/-- nothing is linked, decoded or served when `load` refuses -/
theorem hyperv_load_error (f : File) (x : Err) (h : load f = .error x) :
    openFile f = .error x ∧ asDict f = .error x ∧ typedTree f = .error x := by
  have ho : openFile f = .error x := by unfold openFile; rw [h]
  refine ⟨ho, ?_, ?_⟩
  · unfold asDict; rw [ho]
  · unfold typedTree; rw [ho]

theorem hyperv_asDict_load (f : File) (t : Tree) (h : asDict f = .ok t) : ∃ r, load f = .ok r := by
  cases hl : load f with
  | ok r => exact ⟨r, rfl⟩
  | error x => rw [(hyperv_load_error f x hl).2.1] at h; cases h

theorem hyperv_typedTree_load (f : File) (t : Tree) (h : typedTree f = .ok t) : ∃ r, load f = .ok r := by
  cases hl : load f with
  | ok r => exact ⟨r, rfl⟩
  | error x => rw [(hyperv_load_error f x hl).2.2] at h; cases h

end hyperv

section envelope
open Hv Hv.Envelope

theorem envelope_open_ok (file : Bytes) (env : Env) (h : openEnv file = .ok env) : OpenGates file env := by
  revert h
  refine openEnv_elim (motive := fun r => r = .ok env → _) file (fun _ _ h => nomatch h) fun _ hc h => ?_
  cases h
  exact hc

theorem keystore_stored_ok (store : Dict) (s : Stored) (h : storedOf store = .ok s) :
    dictGet store sMode = some (.str sNONE) := by
  unfold storedOf at h
  cases hm : dictGet store sMode with
  | none => rw [hm] at h; cases h
  | some nd =>
    rw [hm] at h
    cases nd with
    | dict kv => cases h
    | str m =>
      obtain ⟨_, h⟩ := ok_of_gate h
      rw [(ok_of_ne_gate h).1]

end envelope

section vmx
open Hv Hv.Vmx

theorem keysafe_locator_ok (c : Crypto) (fuel : Nat) (s : Bytes) (l : Loc) (h : parseLocator c (fuel + 1) s = .ok l) :
    ((partition sepLoc s).1 = identList ∧ ∃ ms, l = .list ms) ∨
    ((partition sepLoc s).1 = identPair ∧ ∃ k m d, l = .pair k m d) ∨
    ((partition sepLoc s).1 = identPhrase ∧ ∃ p, l = .phrase p) := by
  unfold parseLocator at h
  by_cases hl : (partition sepLoc s).1 = identList
  · rw [if_pos hl] at h
    obtain ⟨ms, _, h⟩ := bind_ok h
    obtain ⟨ls, _, h⟩ := bind_ok h
    cases h
    exact Or.inl ⟨hl, ls, rfl⟩
  rw [if_neg hl] at h
  by_cases hp : (partition sepLoc s).1 = identPair
  · rw [if_pos hp] at h
    obtain ⟨ms, _, h⟩ := bind_ok h
    obtain _ | ⟨m0, rest⟩ := ms
    · cases h
    obtain ⟨k, _, h⟩ := bind_ok h
    obtain _ | ⟨m1, _ | ⟨m2, _⟩⟩ := rest
    · cases h
    · cases h
    obtain ⟨d, _, h⟩ := bind_ok h
    cases h
    exact Or.inr (Or.inl ⟨hp, _, _, _, rfl⟩)
  rw [if_neg hp] at h
  by_cases hph : (partition sepLoc s).1 = identPhrase
  · rw [if_pos hph] at h
    obtain ⟨p, _, h⟩ := bind_ok h
    cases h
    exact Or.inr (Or.inr ⟨hph, p, rfl⟩)
  · rw [if_neg hph] at h
    cases h

theorem keysafe_locator_unknown (c : Crypto) (fuel : Nat) (s : Bytes)
    (h1 : (partition sepLoc s).1 ≠ identList) (h2 : (partition sepLoc s).1 ≠ identPair)
    (h3 : (partition sepLoc s).1 ≠ identPhrase) : parseLocator c (fuel + 1) s = .error .other := by
  unfold parseLocator
  simp only [if_neg h1, if_neg h2, if_neg h3]

/-- the `list` branch of `_parse_key_locator`: a list parses only if EVERY member parses (no member is skipped) -/
theorem keysafe_list_members_ok (c : Crypto) (fuel : Nat) (s : Bytes) (l : Loc)
    (hi : (partition sepLoc s).1 = identList) (h : parseLocator c (fuel + 1) s = .ok l) :
    ∃ ms, splitList (partition sepLoc s).2 = .ok ms ∧ ∀ m ∈ ms, ∃ lm, parseLocator c fuel m = .ok lm := by
  unfold parseLocator at h
  simp only [if_pos hi] at h
  obtain ⟨ms, hms, h⟩ := bind_ok h
  obtain ⟨ls, hls, _⟩ := bind_ok h
  exact ⟨ms, hms, mapM_ok_mem _ ms ls hls⟩

theorem ident_distinct : identList ≠ identPair ∧ identList ≠ identPhrase ∧ identPair ≠ identPhrase := by decide

theorem keysafe_fromText_ok (c : Crypto) (text : Bytes) (locs : List Loc) (h : fromText c text = .ok locs) :
    (partition sepSafe text).1 = identKeySafe ∧
    (partition sepLoc (partition sepSafe text).2).1 = identList := by
  unfold fromText at h
  split at h
  · cases h
  · rename_i hid
    refine ⟨by simpa using hid, ?_⟩
    obtain ⟨l, hl, h⟩ := bind_ok h
    rcases keysafe_locator_ok c _ _ l hl with ⟨hi, _⟩ | ⟨_, k, m, d, rfl⟩ | ⟨_, p, rfl⟩
    · exact hi
    · cases h
    · cases h

theorem vmx_decryptHmac_unknown (c : Crypto) (key data mac : Bytes) (h : hmacInfo mac = none) :
    decryptHmac c key data mac = .error .other := by
  unfold decryptHmac
  rw [h]

theorem vmx_unwrap_unknown (c : Crypto) (p : Phrase) (pw : Bytes)
    (h : pass2keyHash p.pass2key = none ∨ cipherKeySize p.cipher = none) : unwrap c p pw = .error .other := by
  unfold unwrap deriveKey
  cases hp : pass2keyHash p.pass2key with
  | none => rfl
  | some a =>
    rcases h with h | h
    · rw [hp] at h; cases h
    · simp only [h]

theorem find_key_isSome {β : Type} (l : List (Bytes × β)) (n : Bytes) :
    ((l.find? (·.1 = n)).map (·.2)).isSome ↔ n ∈ l.map (·.1) := by
  simp only [Option.isSome_map, List.find?_isSome, List.mem_map, decide_eq_true_eq]

theorem identKeySafe_eq : identKeySafe = asc "vmware:key" := by rw [asc_ofList]; rfl
theorem identList_eq : identList = asc "list" := by rw [asc_ofList]; rfl
theorem identPair_eq : identPair = asc "pair" := by rw [asc_ofList]; rfl
theorem identPhrase_eq : identPhrase = asc "phrase" := by rw [asc_ofList]; rfl

theorem vmx_known_names (n : Bytes) :
    ((pass2keyHash n).isSome ↔ n = asc "PBKDF2-HMAC-SHA-1" ∨ n = asc "PBKDF2-HMAC-SHA-256") ∧
    ((cipherKeySize n).isSome ↔ n = asc "AES-256" ∨ n = asc "AES-192" ∨ n = asc "AES-128") ∧
    ((hmacInfo n).isSome ↔ n = asc "HMAC-SHA-1" ∨ n = asc "HMAC-SHA-1-128" ∨ n = asc "HMAC-SHA-256") := by
  have e1 : Extracted.vmx.PASS2KEY_MAP.map (·.1) = [asc "PBKDF2-HMAC-SHA-1", asc "PBKDF2-HMAC-SHA-256"] := by
    rw [asc_ofList, asc_ofList]; rfl
  have e2 : Extracted.vmx.CIPHER_KEY_SIZES.map (·.1) = [asc "AES-256", asc "AES-192", asc "AES-128"] := by
    rw [asc_ofList, asc_ofList, asc_ofList]; rfl
  have e3 : Extracted.vmx.HMAC_MAP.map (·.1) = [asc "HMAC-SHA-1", asc "HMAC-SHA-1-128", asc "HMAC-SHA-256"] := by
    rw [asc_ofList, asc_ofList, asc_ofList]; rfl
  refine ⟨?_, ?_, ?_⟩
  · unfold pass2keyHash; rw [find_key_isSome, e1]; simp
  · unfold cipherKeySize; rw [find_key_isSome, e2]; simp
  · unfold hmacInfo; rw [find_key_isSome, e3]; simp

end vmx

section hdd
open Hv Hv.HddOpen

theorem hdd_init_missing (d : Dir) (h : d.descriptor = none) : init d = .error .value := by
  unfold init; rw [h]

end hdd

/-! ## vmtar: the checksum check of `TarInfo.frombuf` (the other checks on the 512-byte block: `Vmtar.frombuf_ok`) -/
section vmtar
open Hv Hv.Vmtar

theorem vmtar_tarFields_ok (buf : Bytes) (b : Base) (h : tarFields buf = .ok b) :
    ∃ chk, nti (sub buf 148 156) = .ok chk ∧ (chk = (chksums buf).1 ∨ chk = (chksums buf).2) := by
  unfold tarFields at h
  obtain ⟨chk, hc, h⟩ := bind_ok h
  obtain ⟨hne, _⟩ := ok_of_gate h
  exact ⟨chk, hc, Decidable.or_iff_not_not_and_not.mpr hne⟩

end vmtar

end Hv.Gates
