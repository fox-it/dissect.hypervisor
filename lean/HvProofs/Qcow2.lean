/- `QCow2.read` returns the guest-visible bytes of `Hv/Qcow2Spec.lean` (C01). -/
import HvProofs.Qcow2Runs
import HvProofs.Layers
namespace Hv.Qcow2
open Hv Hv.Extracted.qcow2

theorem l2Entry_eq (q : QCow2) (g : Geom q) (l2Offset idx : Nat) (hin : l2Offset + q.cs ≤ q.fh.size) (hidx : idx < q.l2Size) :
    q.l2Entry l2Offset idx =
      .ok (q.be64 (l2Offset + idx * q.entrySize), if q.sub = true then q.be64 (l2Offset + idx * q.entrySize + 8) else 0) := by
  have htbl := g.tbl
  unfold QCow2.l2Entry QCow2.be64
  cases hs : q.sub
  · have e4 : q.l2EntrySize = 8 := by simp [QCow2.l2EntrySize, hs, L2E_SIZE_NORMAL]
    have e5 : q.entrySize = 8 := by simp [QCow2.entrySize, hs]
    rw [e4] at htbl
    simp only [e4, e5, Nat.mul_div_cancel _ (show 0 < 8 by decide), Nat.div_self (show 0 < 8 by decide), Nat.mul_one,
      Bool.false_eq_true, if_false]
    rw [if_neg (by omega), if_neg (by omega), Nat.mul_comm 8 idx]
  · have e4 : q.l2EntrySize = 16 := by simp [QCow2.l2EntrySize, hs, L2E_SIZE_EXTENDED]
    have e5 : q.entrySize = 16 := by simp [QCow2.entrySize, hs]
    rw [e4] at htbl
    have e6 : idx * 16 / 8 = idx * 2 := by omega
    simp only [e4, e5, e6, show 16 / 8 = 2 from rfl, if_true]
    rw [if_neg (by omega), if_neg (by omega), if_neg (by omega)]
    rw [show l2Offset + 8 * (idx * 2) = l2Offset + idx * 16 by omega,
      show l2Offset + 8 * (idx * 2 + 1) = l2Offset + idx * 16 + 8 by omega]

theorem l1Table_size (q : QCow2) : q.l1Table.size = q.l1Size := by simp [QCow2.l1Table]
theorem l1Table_get (q : QCow2) (i : Nat) (h : i < q.l1Size) : q.l1Table[i]? = some (q.l1At i) := by
  simp [QCow2.l1Table, h]

theorem l1Table_some (q : QCow2) (i l1e : Nat) (h : q.l1Table[i]? = some l1e) : i < q.l1Size ∧ l1e = q.l1At i := by
  by_cases hi : i < q.l1Size
  · rw [l1Table_get q i hi] at h
    injection h with h
    exact ⟨hi, h.symm⟩
  · have : q.l1Table[i]? = none := by
      apply Array.getElem?_eq_none
      rw [l1Table_size]; omega
    rw [this] at h; cases h

/-! ### classification: `get_subcluster_type` agrees with the specification on conformant entries -/

/-- what a byte at guest offset `o` of sub-cluster type `t` (entry `e`) reads as -/
def QCow2.byteOf (q : QCow2) (b : File) (t e o : Nat) : UInt8 :=
  if t = SC_ZERO_PLAIN ∨ t = SC_ZERO_ALLOC then 0
  else if t = SC_UNALLOC_PLAIN ∨ t = SC_UNALLOC_ALLOC then (if o < b.size then b.byte o else 0)
  else if t = SC_NORMAL then q.dataFile.byte (hostOff e + o % q.clusterSize)
  else match q.decomp e with | .ok d => d.getD (o % q.clusterSize) 0 | .error _ => 0

theorem byteOf_zero (q : QCow2) (b : File) (t e o : Nat) (ht : t = SC_ZERO_PLAIN ∨ t = SC_ZERO_ALLOC) :
    q.byteOf b t e o = 0 := by
  unfold QCow2.byteOf; rw [if_pos ht]

theorem byteOf_unalloc (q : QCow2) (b : File) (t e o : Nat) (ht : t = SC_UNALLOC_PLAIN ∨ t = SC_UNALLOC_ALLOC) :
    q.byteOf b t e o = Layers.padTo b.byte b.size o := by
  unfold QCow2.byteOf
  have : ¬ (t = SC_ZERO_PLAIN ∨ t = SC_ZERO_ALLOC) := by
    rcases ht with h | h <;> subst h <;> decide
  rw [if_neg this, if_pos ht]; rfl

theorem byteOf_normal (q : QCow2) (b : File) (e o : Nat) :
    q.byteOf b SC_NORMAL e o = q.dataFile.byte (hostOff e + o % q.clusterSize) := rfl

theorem byteOf_comp (q : QCow2) (b : File) (e o : Nat) (d : Bytes) (hd : q.decomp e = .ok d) :
    q.byteOf b SC_COMPRESSED e o = d.getD (o % q.clusterSize) 0 := by
  show (match q.decomp e with | .ok d => d.getD (o % q.clusterSize) 0 | .error _ => 0) = _
  rw [hd]

theorem guest_unmapped (q : QCow2) (b : File) (o : Nat)
    (h : q.l1Size ≤ o / q.clusterSize / q.l2n ∨ q.l2Off (o / q.clusterSize) = 0) :
    q.guest b o = Layers.padTo b.byte b.size o := by
  unfold QCow2.guest
  simp only []
  by_cases h1 : q.l1Size ≤ o / q.clusterSize / q.l2n
  · rw [if_pos h1]; rfl
  · rw [if_neg h1, if_pos (h.resolve_left h1)]; rfl

theorem guest_mapped (q : QCow2) (b : File) (o : Nat)
    (h1 : ¬ q.l1Size ≤ o / q.clusterSize / q.l2n) (h2 : ¬ q.l2Off (o / q.clusterSize) = 0) :
    q.guest b o =
      if (q.entryAt (o / q.clusterSize)).testBit 62 = true then
        match q.decomp (q.entryAt (o / q.clusterSize)) with
        | .ok d => d.getD (o % q.clusterSize) 0
        | .error _ => 0
      else if q.sub = true then
        if (q.bitmapAt (o / q.clusterSize)).testBit (32 + o % q.clusterSize / (q.clusterSize / 32)) = true then 0
        else if (q.bitmapAt (o / q.clusterSize)).testBit (o % q.clusterSize / (q.clusterSize / 32)) = true then
          q.dataFile.byte (hostOff (q.entryAt (o / q.clusterSize)) + o % q.clusterSize)
        else Layers.padTo b.byte b.size o
      else if (q.entryAt (o / q.clusterSize)).testBit 0 = true then 0
      else if hostOff (q.entryAt (o / q.clusterSize)) = 0 ∧ (q.entryAt (o / q.clusterSize)).testBit 63 = false then
        Layers.padTo b.byte b.size o
      else q.dataFile.byte (hostOff (q.entryAt (o / q.clusterSize)) + o % q.clusterSize) := by
  unfold QCow2.guest
  simp only []
  rw [if_neg h1, if_neg h2]
  rfl

/-- guest byte `o` is what a sub-cluster of type `t` with entry `e` reads as, and what the reader accesses for
    that type exists: the host cluster in the data file, an inflated cluster of full length -/
structure Classified (q : QCow2) (b : File) (o e t : Nat) : Prop where
  le : t ≤ SC_COMPRESSED
  byte : q.guest b o = q.byteOf b t e o
  inFile : t = SC_NORMAL → hostOff e + q.bytesIn (o / q.clusterSize) ≤ q.dataFile.size
  inflates : t = SC_COMPRESSED → q.compressionType = QCOW2_COMPRESSION_TYPE_ZLIB ∧
    ∃ d, q.decomp e = .ok d ∧ q.clusterSize ≤ d.length

theorem Classified.zero {q : QCow2} {b : File} {o e t : Nat} (ht : t = SC_ZERO_PLAIN ∨ t = SC_ZERO_ALLOC)
    (hg : q.guest b o = 0) : Classified q b o e t := by
  have hb := byteOf_zero q b t e o ht
  rcases ht with rfl | rfl <;> exact ⟨by decide, hg.trans hb.symm, nofun, nofun⟩

theorem Classified.unalloc {q : QCow2} {b : File} {o e t : Nat} (ht : t = SC_UNALLOC_PLAIN ∨ t = SC_UNALLOC_ALLOC)
    (hg : q.guest b o = Layers.padTo b.byte b.size o) : Classified q b o e t := by
  have hb := byteOf_unalloc q b t e o ht
  rcases ht with rfl | rfl <;> exact ⟨by decide, hg.trans hb.symm, nofun, nofun⟩

theorem Classified.normal {q : QCow2} {b : File} {o e : Nat}
    (hg : q.guest b o = q.dataFile.byte (hostOff e + o % q.clusterSize))
    (hin : hostOff e + q.bytesIn (o / q.clusterSize) ≤ q.dataFile.size) : Classified q b o e SC_NORMAL :=
  ⟨by decide, hg, fun _ => hin, nofun⟩

theorem Classified.comp {q : QCow2} {b : File} {o : Nat}
    (h1 : ¬ q.l1Size ≤ o / q.clusterSize / q.l2n) (h2 : ¬ q.l2Off (o / q.clusterSize) = 0)
    (hok : EntryOK q (o / q.clusterSize)) (hc : (q.entryAt (o / q.clusterSize)).testBit 62 = true) :
    Classified q b o (q.entryAt (o / q.clusterSize)) SC_COMPRESSED := by
  obtain ⟨hz, hl⟩ := hok.comp hc
  unfold QCow2.decompLen at hl
  cases hd : q.decomp (q.entryAt (o / q.clusterSize)) with
  | error err => rw [hd] at hl; exact absurd hl (Nat.not_le.mpr (Nat.two_pow_pos _))
  | ok d =>
  rw [hd] at hl
  refine ⟨by decide, ?_, nofun, fun _ => ⟨hz, d, hd, hl⟩⟩
  rw [guest_mapped q b o h1 h2, if_pos hc, byteOf_comp q b _ o d hd, hd]

theorem classify_std (q : QCow2) (b : File) (o : Nat) (hs : q.sub = false)
    (h1 : ¬ q.l1Size ≤ o / q.clusterSize / q.l2n) (h2 : ¬ q.l2Off (o / q.clusterSize) = 0)
    (hok : EntryOK q (o / q.clusterSize)) :
    Classified q b o (q.entryAt (o / q.clusterSize)) (q.stdType (q.entryAt (o / q.clusterSize))) := by
  unfold QCow2.stdType
  by_cases hc : (q.entryAt (o / q.clusterSize)).testBit 62 = true
  · rw [if_pos hc]; exact .comp h1 h2 hok hc
  have hc' : (q.entryAt (o / q.clusterSize)).testBit 62 = false := by simpa using hc
  have hg := guest_mapped q b o h1 h2
  have hoff0 := hok.off0 hc'
  have hin := hok.std_in hc' hs
  generalize q.entryAt (o / q.clusterSize) = e at *
  rw [if_neg hc] at hg ⊢
  simp only [hs, Bool.false_eq_true, if_false] at hg
  by_cases hz : e.testBit 0 = true
  · rw [if_pos hz] at hg ⊢
    split
    · exact .zero (Or.inr rfl) hg
    · exact .zero (Or.inl rfl) hg
  have hz' : e.testBit 0 = false := by simpa using hz
  rw [if_neg hz] at hg ⊢
  by_cases hB : hostOff e = 0 ∧ e.testBit 63 = false
  · rw [if_pos hB] at hg
    rw [if_pos hB.1, if_neg (fun h => by rw [hB.2] at h; cases h.2)]
    exact .unalloc (Or.inl rfl) hg
  · rw [if_neg hB] at hg
    have : (if hostOff e = 0 then (if q.hasDataFile = true ∧ e.testBit 63 = true then SC_NORMAL else SC_UNALLOC_PLAIN)
        else SC_NORMAL) = SC_NORMAL := by
      by_cases ho : hostOff e = 0
      · have h63 : e.testBit 63 = true := by
          cases h : e.testBit 63
          · exact absurd ⟨ho, h⟩ hB
          · rfl
        rw [if_pos ho, if_pos ⟨hoff0 ho h63, h63⟩]
      · rw [if_neg ho]
    rw [this]
    exact .normal hg (hin hz' hB)

/-- the sub-cluster type of an extended entry in terms of the specification's bit fields -/
def QCow2.extType (q : QCow2) (e bm s : Nat) : Nat :=
  if e.testBit 62 = true then SC_COMPRESSED
  else if hostOff e = 0 ∧ ¬ (q.hasDataFile = true ∧ e.testBit 63 = true) then
    (if bm.testBit (s + 32) = true then SC_ZERO_PLAIN else SC_UNALLOC_PLAIN)
  else if bm.testBit (s + 32) = true then SC_ZERO_ALLOC
  else if bm.testBit s = true then SC_NORMAL else SC_UNALLOC_ALLOC

theorem subclusterType_ext_eq (q : QCow2) (hs : q.sub = true) (e bm s : Nat)
    (hX : e.testBit 62 = false → ¬ (hostOff e = 0 ∧ ¬ (q.hasDataFile = true ∧ e.testBit 63 = true)) → ¬ ((bm >>> 32) &&& bm ≠ 0))
    (hY : e.testBit 62 = false → (hostOff e = 0 ∧ ¬ (q.hasDataFile = true ∧ e.testBit 63 = true)) → ¬ (bm &&& (2 ^ 32 - 1) ≠ 0)) :
    q.subclusterType e bm s = .ok (q.extType e bm s) := by
  rw [subclusterType_sub q hs, clusterType_eq]
  unfold QCow2.extType
  simp only [hs, not_true, and_false, if_false]
  by_cases h62 : e.testBit 62 = true
  · simp only [h62, if_true]
  · have h62' : e.testBit 62 = false := by simpa using h62
    by_cases hk : hostOff e = 0 ∧ ¬ (q.hasDataFile = true ∧ e.testBit 63 = true)
    · have hY' := hY h62' hk
      obtain ⟨ho, hd⟩ := hk
      simp only [h62, ho, hd, hY', if_true, if_false, and_self, not_false_eq_true, Bool.false_eq_true]
      split <;> rfl
    · have hX' := hX h62' hk
      by_cases ho : hostOff e = 0
      · have hd : q.hasDataFile = true ∧ e.testBit 63 = true := by
          apply Classical.byContradiction
          intro hd; exact hk ⟨ho, hd⟩
        simp only [h62, ho, hd, hX', if_true, if_false, and_self, not_true, and_false, Bool.false_eq_true]
        (repeat' split) <;> rfl
      · simp only [h62, ho, hX', if_false, false_and, Bool.false_eq_true]
        (repeat' split) <;> rfl

/-- "unallocated cluster" in the code's sense (offset 0, no COPIED flag with a data file) is, on a well-formed
    entry, the specification's: offset 0 and bit 63 clear -/
theorem unalloc_kind (q : QCow2) (c : Nat) (hok : EntryOK q c) (h62 : (q.entryAt c).testBit 62 = false)
    (hk : hostOff (q.entryAt c) = 0 ∧ ¬ (q.hasDataFile = true ∧ (q.entryAt c).testBit 63 = true)) :
    (q.entryAt c).testBit 63 = false := by
  cases h63 : (q.entryAt c).testBit 63 with
  | false => rfl
  | true => exact absurd ⟨hok.off0 h62 hk.1 h63, h63⟩ hk.2

theorem subclusterType_ext_entry (q : QCow2) (hs : q.sub = true) (c s : Nat) (hok : EntryOK q c) :
    q.subclusterType (q.entryAt c) (q.bitmapAt c) s = .ok (q.extType (q.entryAt c) (q.bitmapAt c) s) :=
  subclusterType_ext_eq q hs _ _ s
    (fun h62 _ hne => hne ((disjoint_iff _).mpr fun i ⟨ha, hz⟩ => by
      -- the bitmap is a 64-bit word: bit `i + 32` can only be set for `i < 32`
      have hi : i < 32 := Nat.lt_of_not_le fun hge => by
        have hlt : q.bitmapAt c < 2 ^ (i + 32) :=
          Nat.lt_of_lt_of_le (be64_lt q _) (Nat.pow_le_pow_right (by decide) (by omega))
        rw [Nat.testBit_lt_two_pow hlt] at hz
        cases hz
      exact hok.ext_disj h62 hs i hi ⟨ha, Nat.add_comm i 32 ▸ hz⟩))
    (fun h62 hk hne => hne ((lowBits_iff _).mpr (hok.ext_unalloc h62 hs hk.1 (unalloc_kind q c hok h62 hk))))

theorem classify_ext (q : QCow2) (b : File) (o : Nat) (hs : q.sub = true)
    (hs32 : o % q.clusterSize / (q.clusterSize / 32) < 32)
    (h1 : ¬ q.l1Size ≤ o / q.clusterSize / q.l2n) (h2 : ¬ q.l2Off (o / q.clusterSize) = 0)
    (hok : EntryOK q (o / q.clusterSize)) :
    Classified q b o (q.entryAt (o / q.clusterSize))
      (q.extType (q.entryAt (o / q.clusterSize)) (q.bitmapAt (o / q.clusterSize)) (o % q.clusterSize / (q.clusterSize / 32))) := by
  unfold QCow2.extType
  by_cases hc : (q.entryAt (o / q.clusterSize)).testBit 62 = true
  · rw [if_pos hc]; exact .comp h1 h2 hok hc
  have hc' : (q.entryAt (o / q.clusterSize)).testBit 62 = false := by simpa using hc
  have hg := guest_mapped q b o h1 h2
  have hkind := unalloc_kind q _ hok hc'
  have hun := hok.ext_unalloc hc' hs
  have hin := hok.ext_in hc' hs
  generalize q.entryAt (o / q.clusterSize) = e at *
  generalize q.bitmapAt (o / q.clusterSize) = bm at *
  generalize o % q.clusterSize / (q.clusterSize / 32) = s at *
  rw [if_neg hc] at hg ⊢
  simp only [hs, if_true] at hg
  rw [Nat.add_comm 32 s] at hg
  by_cases hk : hostOff e = 0 ∧ ¬ (q.hasDataFile = true ∧ e.testBit 63 = true)
  · rw [if_pos hk]
    by_cases hz : bm.testBit (s + 32) = true
    · rw [if_pos hz] at hg ⊢
      exact .zero (Or.inl rfl) hg
    · rw [if_neg hz] at hg ⊢
      rw [if_neg (by rw [hun hk.1 (hkind hk) s hs32]; nofun)] at hg
      exact .unalloc (Or.inl rfl) hg
  · rw [if_neg hk]
    by_cases hz : bm.testBit (s + 32) = true
    · rw [if_pos hz] at hg ⊢
      exact .zero (Or.inr rfl) hg
    · rw [if_neg hz] at hg ⊢
      by_cases ha : bm.testBit s = true
      · rw [if_pos ha] at hg ⊢
        exact .normal hg (hin ⟨s, hs32, ha⟩)
      · rw [if_neg ha] at hg ⊢
        exact .unalloc (Or.inr rfl) hg

/-- the bitmap word the code passes along: 0 for standard entries -/
def QCow2.bmOf (q : QCow2) (c : Nat) : Nat := if q.sub = true then q.bitmapAt c else 0

theorem classify (q : QCow2) (g : Geom q) (b : File) (o : Nat)
    (h1 : ¬ q.l1Size ≤ o / q.clusterSize / q.l2n) (h2 : ¬ q.l2Off (o / q.clusterSize) = 0)
    (hok : EntryOK q (o / q.clusterSize)) :
    ∃ t, q.subclusterType (q.entryAt (o / q.clusterSize)) (q.bmOf (o / q.clusterSize))
        (o / 2 ^ q.scBits % q.scPer) = .ok t ∧ Classified q b o (q.entryAt (o / q.clusterSize)) t := by
  unfold QCow2.bmOf
  cases hs : q.sub with
  | false => exact ⟨_, subclusterType_std_eq q hs _ _ _, classify_std q b o hs h1 h2 hok⟩
  | true =>
    have hlt : o / 2 ^ q.scBits % q.scPer < 32 := by rw [scPer_sub q hs]; exact Nat.mod_lt _ (by decide)
    -- the code's sub-cluster index is the specification's
    have e1 : q.clusterSize / 32 = 2 ^ q.scBits := by
      rw [g.bits]; unfold QCow2.scSize; rw [scPer_sub q hs]; rfl
    rw [← oic_sc q g o, cs_eq, ← e1] at hlt ⊢
    exact ⟨_, subclusterType_ext_entry q hs _ _ hok, classify_ext q b o hs hlt h1 h2 hok⟩

theorem type_ok (q : QCow2) (c s : Nat) (hok : EntryOK q c) :
    ∃ t, q.subclusterType (q.entryAt c) (q.bmOf c) s = .ok t ∧ t ≤ SC_COMPRESSED := by
  unfold QCow2.bmOf
  cases hs : q.sub with
  | false => exact ⟨_, subclusterType_std_eq q hs _ _ _, by unfold QCow2.stdType; (repeat' split) <;> decide⟩
  | true => exact ⟨_, subclusterType_ext_entry q hs c s hok, by unfold QCow2.extType; (repeat' split) <;> decide⟩

theorem runData_zero (q : QCow2) (t ro h n : Nat) (ht : t = SC_ZERO_PLAIN ∨ t = SC_ZERO_ALLOC) :
    q.runData ⟨t, ro, h, n⟩ = .ok (zeros n) := by
  rcases ht with ht | ht <;> subst ht <;> simp [QCow2.runData, ZERO_SUBCLUSTER_TYPES, SC_ZERO_PLAIN, SC_ZERO_ALLOC]

theorem runData_unalloc (q : QCow2) (b : File) (hb : BackingIs q.backing b) (t ro h n : Nat)
    (ht : t = SC_UNALLOC_PLAIN ∨ t = SC_UNALLOC_ALLOC) :
    q.runData ⟨t, ro, h, n⟩ = .ok (slice (Layers.padTo b.byte b.size) ro n) := by
  have hz : ZERO_SUBCLUSTER_TYPES.contains t = false := by
    rcases ht with ht | ht <;> subst ht <;> decide
  have hu : UNALLOCATED_SUBCLUSTER_TYPES.contains t = true := by
    rcases ht with ht | ht <;> subst ht <;> decide
  unfold QCow2.runData
  simp only [hz, hu, Bool.false_eq_true, false_or, true_and, if_true]
  unfold BackingIs at hb
  cases hbk : q.backing with
  | none =>
    rw [hbk] at hb
    simp only [Option.isNone_none, if_true]
    congr 1
    apply zeros_eq_slice
    intro i _
    simp only at hb
    simp [Layers.padTo, hb]
  | some rd =>
    rw [hbk] at hb
    simp only [Option.isNone_some, Bool.false_eq_true, if_false]
    simp only at hb
    rw [hb ro n]
    simp only [bind, Except.bind]
    rw [File.read, slice_length, Layers.slice_padTo]

theorem runData_normal (q : QCow2) (ro h n : Nat) :
    q.runData ⟨SC_NORMAL, ro, h, n⟩ = .ok (q.dataFile.read h n) := by
  simp [QCow2.runData, ZERO_SUBCLUSTER_TYPES, UNALLOCATED_SUBCLUSTER_TYPES, SC_NORMAL, SC_COMPRESSED]

theorem runData_comp (q : QCow2) (ro h n : Nat) :
    q.runData ⟨SC_COMPRESSED, ro, h, n⟩ = q.readCompressed h ro n := by
  simp [QCow2.runData, ZERO_SUBCLUSTER_TYPES, UNALLOCATED_SUBCLUSTER_TYPES, SC_COMPRESSED]

theorem readCompressed_eq (q : QCow2) (hh : HdrOK q) (e offset n : Nat) :
    q.readCompressed (e &&& L2E_COMPRESSED_OFFSET_SIZE_MASK) offset n =
      if q.compressionType ≠ QCOW2_COMPRESSION_TYPE_ZLIB then .error .other
      else (q.decomp e).bind (fun dec => .ok ((dec.drop (offset % q.clusterSize)).take n)) := by
  have h1 := hh.cb_lo
  have h2 := hh.cb_hi
  have hm : L2E_COMPRESSED_OFFSET_SIZE_MASK = 2 ^ 62 - 1 := by decide
  have hx : q.csizeShift = q.cx := rfl
  have hx62 : q.cx ≤ 62 := by unfold QCow2.cx; omega
  have hk : q.clusterBits - 8 = 62 - q.cx := by unfold QCow2.cx; omega
  have e1 : (e &&& L2E_COMPRESSED_OFFSET_SIZE_MASK) &&& q.clusterOffsetMask = e % 2 ^ q.cx := by
    unfold QCow2.clusterOffsetMask
    rw [hm, hx, Nat.and_two_pow_sub_one_eq_mod, Nat.and_two_pow_sub_one_eq_mod]
    exact Nat.mod_mod_of_dvd e (Nat.pow_dvd_pow 2 hx62)
  have e2 : ((e &&& L2E_COMPRESSED_OFFSET_SIZE_MASK) >>> q.csizeShift) &&& q.csizeMask = e / 2 ^ q.cx % 2 ^ (62 - q.cx) := by
    unfold QCow2.csizeMask
    rw [hm, hx, hk, Nat.and_two_pow_sub_one_eq_mod, Nat.and_two_pow_sub_one_eq_mod, Nat.shiftRight_eq_div_pow]
    have : (2:Nat) ^ 62 = 2 ^ q.cx * 2 ^ (62 - q.cx) := by rw [← Nat.pow_add]; congr 1; omega
    rw [this, Nat.mod_mul_right_div_self, Nat.mod_mod]
  have e3 : ∀ x : Nat, x &&& 511 = x % 512 := fun x => Nat.and_two_pow_sub_one_eq_mod x 9
  unfold QCow2.readCompressed
  simp only [e1, e2, e3]
  have hsec : QCOW2_COMPRESSED_SECTOR_SIZE = 512 := rfl
  rw [hsec]
  by_cases hz : q.compressionType ≠ QCOW2_COMPRESSION_TYPE_ZLIB
  · rw [if_pos hz, if_pos hz]
  · rw [if_neg hz, if_neg hz]
    rfl

theorem lt_nClusters_iff (q : QCow2) (c : Nat) : c < q.nClusters ↔ c * q.clusterSize < q.size := by
  have hpos : 0 < q.clusterSize := Nat.two_pow_pos _
  unfold QCow2.nClusters
  rw [Nat.lt_iff_add_one_le, Nat.le_div_iff_mul_le hpos, Nat.add_mul, Nat.one_mul]
  omega

theorem lt_bytesIn (q : QCow2) (o : Nat) (h : o < q.size) : o % q.clusterSize < q.bytesIn (o / q.clusterSize) := by
  have hpos : 0 < q.clusterSize := Nat.two_pow_pos _
  unfold QCow2.bytesIn
  have h1 := Nat.div_add_mod o q.clusterSize
  have h2 := Nat.mod_lt o hpos
  rw [Nat.add_mul, Nat.one_mul, Nat.mul_comm]
  omega

/-! the L2 entries the walk fetches on a conformant image are the specification's, and well-formed -/

theorem entry_fetch (q : QCow2) (hc : Conformant q) (offset i l1e : Nat)
    (hl1e : q.l1Table[offset / 2 ^ (q.l2Bits + q.clusterBits)]? = some l1e)
    (hl2 : l1e &&& L1E_OFFSET_MASK ≠ 0)
    (hi : offset / q.cs % q.l2Size + i < q.l2Size) (hsz : (offset / q.cs + i) * q.cs < q.size) :
    ¬ q.l1Size ≤ (offset / q.cs + i) / q.l2n ∧ ¬ q.l2Off (offset / q.cs + i) = 0 ∧ EntryOK q (offset / q.cs + i) ∧
    q.l2Entry (l1e &&& L1E_OFFSET_MASK) (offset / q.cs % q.l2Size + i)
      = .ok (q.entryAt (offset / q.cs + i), q.bmOf (offset / q.cs + i)) := by
  have g := geom q hc.hdr
  obtain ⟨t1, t2⟩ := table_arith q g offset i hi
  obtain ⟨hl1lt, hl1eq⟩ := l1Table_some q _ _ hl1e
  generalize offset / q.cs + i = c at *
  have hl2off : q.l2Off c = l1e &&& L1E_OFFSET_MASK := by
    -- `L1E_OFFSET_MASK` and `L2E_OFFSET_MASK` are the same number: `offset_mask` serves both
    unfold QCow2.l2Off; rw [t1, hl1eq]; exact (offset_mask _).symm
  have h1 : ¬ q.l1Size ≤ c / q.l2n := by rw [t1]; omega
  have h2 : ¬ q.l2Off c = 0 := by rw [hl2off]; exact hl2
  have hok : EntryOK q c := hc.entries c ((lt_nClusters_iff q c).mpr hsz) (by omega) h2
  refine ⟨h1, h2, hok, ?_⟩
  rw [← hl2off, l2Entry_eq q g (q.l2Off c) _ hok.l2_in hi, ← t2]
  rfl

theorem loop_fetch (q : QCow2) (hc : Conformant q) (offset i s l1e : Nat)
    (hl1e : q.l1Table[offset / 2 ^ (q.l2Bits + q.clusterBits)]? = some l1e)
    (hl2 : l1e &&& L1E_OFFSET_MASK ≠ 0)
    (hi : offset / q.cs % q.l2Size + i < q.l2Size) (hsz : (offset / q.cs + i) * q.cs < q.size) :
    ∃ e bm t n, q.l2Entry (l1e &&& L1E_OFFSET_MASK) (offset / q.cs % q.l2Size + i) = .ok (e, bm) ∧
      q.subclusterRangeType e bm s = .ok (t, n) := by
  obtain ⟨_, _, hok, hE⟩ := entry_fetch q hc offset i l1e hl1e hl2 hi hsz
  obtain ⟨t, hT, hle⟩ := type_ok q _ s hok
  obtain ⟨n, hn⟩ := rangeType_ok q _ _ _ t hT hle
  exact ⟨_, _, t, n, hE, hn⟩

theorem step_ok (q : QCow2) (hc : Conformant q) (offset length : Nat) (hl : 0 < length)
    (hsz : offset + length ≤ q.size) : ∃ n run, q.step offset length = .ok (n, run) := by
  have g := geom q hc.hdr
  have hcs := cs_pos q
  obtain ⟨hb1, hb2, hb3⟩ := bn_bounds q g offset length hl
  unfold QCow2.step
  rw [hc.l1ok]
  simp only [bind, Except.bind]
  by_cases hidx : offset / 2 ^ (q.l2Bits + q.clusterBits) ≥ q.l1Table.size
  · rw [if_pos hidx]; exact ⟨_, _, rfl⟩
  rw [if_neg hidx]
  have hlt : offset / 2 ^ (q.l2Bits + q.clusterBits) < q.l1Size := by rw [l1Table_size] at hidx; omega
  have hl1e := l1Table_get q _ hlt
  rw [hl1e]
  simp only []
  by_cases hz : q.l1At (offset / 2 ^ (q.l2Bits + q.clusterBits)) &&& L1E_OFFSET_MASK = 0
  · rw [if_pos hz]; exact ⟨_, _, rfl⟩
  rw [if_neg hz]
  -- every entry the counting loop may look at classifies
  have hloop : ∀ i s, i < (q.bn offset length + (q.cs - 1)) / q.cs →
      ∃ e bm t n, q.l2Entry (q.l1At (offset / 2 ^ (q.l2Bits + q.clusterBits)) &&& L1E_OFFSET_MASK)
          (offset / q.cs % q.l2Size + i) = .ok (e, bm) ∧ q.subclusterRangeType e bm s = .ok (t, n) := by
    intro i s hi
    -- entry `i` starts `i` clusters after the cluster of `offset`, before the end of the request and of the table
    have hics : i * q.cs < q.bn offset length := by have := (Nat.lt_div_iff_mul_lt hcs).mp hi; omega
    have hdm := Nat.div_add_mod offset q.cs
    refine loop_fetch q hc offset i s _ hl1e hz ?_ ?_
    · have : i < q.l2Size - offset / q.cs % q.l2Size := Nat.lt_of_mul_lt_mul_right (Nat.lt_of_lt_of_le hics hb3)
      omega
    · rw [Nat.add_mul, Nat.mul_comm (offset / q.cs)]; omega
  obtain ⟨e, bm, t, n, hE, hR⟩ := hloop 0 (offset / 2 ^ q.scBits % q.scPer) (Nat.div_pos (by omega) hcs)
  obtain ⟨t', hT, _⟩ := bind_ok hR
  obtain ⟨cnt, hcnt⟩ := countLoop_ok q _ (offset / q.cs % q.l2Size) (offset / 2 ^ q.scBits % q.scPer)
    ((q.bn offset length + (q.cs - 1)) / q.cs) 0 ⟨0, 0, 0, false⟩ fun i _ hi => hloop i _ (by omega)
  unfold QCow2.bn at hcnt
  rw [Nat.add_zero] at hE
  rw [hE]
  simp only []
  rw [hT]
  simp only []
  rw [hcnt]
  exact ⟨_, _, rfl⟩

section
/- byte `offset + j` of a mapped run, before the end of the request (`bn`) and of the `cnt` sub-clusters counted.
   Every lemma of this section takes, explicitly and in this order, `q hc b m length j hj hsz` (then its own hypotheses). -/
variable (q : QCow2) (hc : Conformant q) (b : File) {offset l1e e bm t cnt : Nat}
  (m : MappedRun q q.l1Table offset l1e e bm t cnt) (length j : Nat)
  (hj : offset % q.cs + j < min ((cnt + offset / 2 ^ q.scBits % q.scPer) * 2 ^ q.scBits) (q.bn offset length))
  (hsz : offset + j < q.size)
include hc m hj hsz

theorem mapped_byte : ∃ e', Classified q b (offset + j) e' t ∧
      (Chk t → hostOff e' = hostOff e + (offset % q.cs + j) / q.cs * q.cs) ∧
      ((offset % q.cs + j) / q.cs = 0 → e' = e) := by
  have g := geom q hc.hdr
  have hbn : q.bn offset length ≤ (q.l2Size - offset / q.cs % q.l2Size) * q.cs := Nat.min_le_right _ _
  have F := cluster_arith q g offset j (by omega)
  -- the specification writes `clusterSize` for the code's `cs` (`cs_eq`, by `rfl`)
  have hF1 : (offset + j) / q.clusterSize = offset / q.cs + (offset % q.cs + j) / q.cs := F.cluster
  obtain ⟨h1, h2, hok, hfetch⟩ := entry_fetch q hc offset _ l1e m.idx m.l2 F.l2_lt
    (hF1 ▸ Nat.lt_of_le_of_lt (Nat.div_mul_le_self _ _) hsz)
  rw [← hF1] at h1 h2 hok hfetch
  obtain ⟨e', bm', hE', hT', hoff'⟩ := m.good_at g j (Nat.lt_of_lt_of_le hj (Nat.min_le_left _ _))
  rw [F.scCluster] at hE' hoff'
  rw [← F.sc] at hT'
  -- the entry the loop saw there is the specification's entry of the byte's cluster
  rw [hfetch] at hE'
  cases hE'
  obtain ⟨t', hT, hcl⟩ := classify q g b (offset + j) h1 h2 hok
  rw [hT'] at hT
  cases hT
  refine ⟨_, hcl, fun hchk => by rw [← offset_mask, hoff' hchk, offset_mask], fun h0 => ?_⟩
  rw [h0, Nat.add_zero, m.entry] at hfetch
  injection hfetch with hfetch
  injection hfetch with he _
  exact he.symm

theorem normal_byte (ht : t = SC_NORMAL) :
    q.guest b (offset + j) = q.dataFile.byte (hostOff e + offset % q.cs + j) ∧
      hostOff e + offset % q.cs + j < q.dataFile.size := by
  subst ht
  obtain ⟨e', c, ho, _⟩ := mapped_byte q hc b m length j hj hsz
  have hbn : q.bn offset length ≤ (q.l2Size - offset / q.cs % q.l2Size) * q.cs := Nat.min_le_right _ _
  have hF2 : (offset + j) % q.clusterSize = (offset % q.cs + j) % q.cs :=
    (cluster_arith q (geom q hc.hdr) offset j (by omega)).inCluster
  have hlt := lt_bytesIn q (offset + j) hsz
  rw [hF2] at hlt
  -- the host clusters are contiguous: `k` clusters on, plus the offset into the cluster, is `offset % cs + j` on
  have hoe := ho (Or.inl rfl)
  have hin := c.inFile rfl
  have hdm := Nat.div_add_mod (offset % q.cs + j) q.cs
  rw [Nat.mul_comm] at hdm
  have p1 : hostOff e' + (offset % q.cs + j) % q.cs = hostOff e + offset % q.cs + j := by omega
  rw [← p1, c.byte, byteOf_normal, hF2]
  exact ⟨rfl, by omega⟩

theorem comp_byte (ht : t = SC_COMPRESSED) (hin : offset % q.cs + j < q.cs) :
    q.compressionType = QCOW2_COMPRESSION_TYPE_ZLIB ∧ ∃ d, q.decomp e = .ok d ∧ q.cs ≤ d.length ∧
      q.guest b (offset + j) = d.getD (offset % q.cs + j) 0 := by
  subst ht
  obtain ⟨e', c, _, he⟩ := mapped_byte q hc b m length j hj hsz
  have hbn : q.bn offset length ≤ (q.l2Size - offset / q.cs % q.l2Size) * q.cs := Nat.min_le_right _ _
  have hF2 : (offset + j) % q.clusterSize = (offset % q.cs + j) % q.cs :=
    (cluster_arith q (geom q hc.hdr) offset j (by omega)).inCluster
  cases he (Nat.div_eq_of_lt hin)
  obtain ⟨hz, d, hd, hdl⟩ := c.inflates rfl
  exact ⟨hz, d, hd, hdl, by rw [c.byte, byteOf_comp q b _ _ d hd, hF2, Nat.mod_eq_of_lt hin]⟩

end

theorem run_mapped (q : QCow2) (hc : Conformant q) (b : File) (hb : BackingIs q.backing b)
    {offset l1e e bm t cnt : Nat} (m : MappedRun q q.l1Table offset l1e e bm t cnt) (length n : Nat)
    (hl : 0 < length) (hsz : offset + length ≤ q.size)
    (hcomp : t = SC_COMPRESSED → offset / 2 ^ q.scBits % q.scPer + cnt ≤ q.scPer)
    (hn : n = min ((cnt + offset / 2 ^ q.scBits % q.scPer) * 2 ^ q.scBits) (q.bn offset length) - offset % q.cs)
    (hn1 : 1 ≤ n) :
    q.runData ⟨t, offset,
        (if t = SC_COMPRESSED then e &&& L2E_COMPRESSED_OFFSET_SIZE_MASK
         else if NORMAL_SUBCLUSTER_TYPES.contains t then (e &&& L2E_OFFSET_MASK) + offset % q.cs else 0), n⟩
      = .ok (slice (q.guest b) offset n) := by
  have g := geom q hc.hdr
  obtain ⟨hb1, hb2, hb3⟩ := bn_bounds q g offset length hl
  -- the run ends where the counted sub-clusters or the request end
  have hend : offset % q.cs + n =
      min ((cnt + offset / 2 ^ q.scBits % q.scPer) * 2 ^ q.scBits) (q.bn offset length) := by omega
  have hA : offset % q.cs + n ≤ (cnt + offset / 2 ^ q.scBits % q.scPer) * 2 ^ q.scBits :=
    hend ▸ Nat.min_le_left _ _
  have hB : offset % q.cs + n ≤ q.bn offset length := hend ▸ Nat.min_le_right _ _
  clear hn
  have hj : ∀ j, j < n → offset % q.cs + j <
      min ((cnt + offset / 2 ^ q.scBits % q.scPer) * 2 ^ q.scBits) (q.bn offset length) :=
    fun j hj => hend ▸ Nat.add_lt_add_left hj _
  have hsz' : ∀ j, j < n → offset + j < q.size := fun j hj => by omega
  clear hend
  obtain ⟨_, c0, _⟩ := mapped_byte q hc b m length 0 (hj 0 hn1) (hsz' 0 hn1)
  have hcases : (t = SC_UNALLOC_PLAIN ∨ t = SC_UNALLOC_ALLOC) ∨ (t = SC_ZERO_PLAIN ∨ t = SC_ZERO_ALLOC) ∨
      t = SC_NORMAL ∨ t = SC_COMPRESSED := by
    have : t ≤ 5 := c0.le
    show (t = 0 ∨ t = 1) ∨ (t = 2 ∨ t = 3) ∨ t = 4 ∨ t = 5
    omega
  rcases hcases with ht | ht | ht | ht
  · rw [runData_unalloc q b hb t _ _ _ ht]
    congr 1
    apply slice_congr
    intro i hi
    obtain ⟨e', c, _⟩ := mapped_byte q hc b m length i (hj i hi) (hsz' i hi)
    rw [c.byte, byteOf_unalloc q b t e' _ ht]
  · rw [runData_zero q t _ _ _ ht]
    congr 1
    apply zeros_eq_slice
    intro i hi
    obtain ⟨e', c, _⟩ := mapped_byte q hc b m length i (hj i hi) (hsz' i hi)
    rw [c.byte, byteOf_zero q b t e' _ ht]
  · subst ht
    have hpos := fun i hi => normal_byte q hc b m length i (hj i hi) (hsz' i hi) rfl
    have hfit : hostOff e + offset % q.cs + n ≤ q.dataFile.size := by
      have := (hpos (n - 1) (by omega)).2; omega
    show q.runData ⟨SC_NORMAL, offset, (e &&& L2E_OFFSET_MASK) + offset % q.cs, n⟩ = _
    rw [offset_mask, runData_normal, File.read_eq_slice hfit]
    congr 1
    exact slice_shift (fun i hi => (hpos i hi).1.symm)
  · subst ht
    -- the run stays inside the cluster of `e`
    have hin : ∀ i, i < n → offset % q.cs + i < q.cs := by
      have h1 : (cnt + offset / 2 ^ q.scBits % q.scPer) * 2 ^ q.scBits ≤ q.scPer * 2 ^ q.scBits :=
        Nat.mul_le_mul_right _ (by have := hcomp rfl; omega)
      have h2 : q.scPer * 2 ^ q.scBits = q.cs := by rw [g.bits, g.per_size]
      intro i hi; omega
    obtain ⟨hz, d, hd, hdl, _⟩ := comp_byte q hc b m length 0 (hj 0 hn1) (hsz' 0 hn1) rfl (hin 0 hn1)
    show q.runData ⟨SC_COMPRESSED, offset, e &&& L2E_COMPRESSED_OFFSET_SIZE_MASK, n⟩ = _
    rw [runData_comp, readCompressed_eq q hc.hdr, if_neg (by simp [hz]), hd]
    simp only [Except.bind]
    congr 1
    have hlen : offset % q.cs + n ≤ d.length := by
      have := hin (n - 1) (by omega); omega
    rw [drop_take_slice d (offset % q.clusterSize) n hlen]
    apply slice_shift
    intro i hi
    obtain ⟨_, d', hd', _, hg⟩ := comp_byte q hc b m length i (hj i hi) (hsz' i hi) rfl (hin i hi)
    rw [hd] at hd'
    cases hd'
    rw [hg]
    rfl

theorem run_unalloc (q : QCow2) (hc : Conformant q) (b : File) (hb : BackingIs q.backing b)
    (offset length n : Nat) (hl : 0 < length)
    (hidx : q.l1Table.size ≤ offset / 2 ^ (q.l2Bits + q.clusterBits) ∨
        ∃ l1e, q.l1Table[offset / 2 ^ (q.l2Bits + q.clusterBits)]? = some l1e ∧ l1e &&& L1E_OFFSET_MASK = 0)
    (hn : n = q.bn offset length - offset % q.cs) :
    q.runData ⟨SC_UNALLOC_PLAIN, offset, 0, n⟩ = .ok (slice (q.guest b) offset n) := by
  have g := geom q hc.hdr
  obtain ⟨hb1, hb2, hb3⟩ := bn_bounds q g offset length hl
  rw [runData_unalloc q b hb _ _ _ _ (Or.inl rfl)]
  congr 1
  apply slice_congr
  intro i hi
  obtain ⟨F1, _, _, F4, _⟩ := cluster_arith q g offset i (by omega)
  have hoc : (offset + i) / q.clusterSize = offset / q.cs + (offset % q.cs + i) / q.cs := F1
  rw [guest_unmapped q b (offset + i)]
  rw [hoc, F4]
  rcases hidx with h | ⟨l1e, h1, h2⟩
  · left; rw [l1Table_size] at h; exact h
  · right
    obtain ⟨_, heq⟩ := l1Table_some q _ _ h1
    unfold QCow2.l2Off
    rw [F4, ← heq]; exact (offset_mask l1e).symm.trans h2

theorem step_correct (q : QCow2) (hc : Conformant q) (b : File) (hb : BackingIs q.backing b)
    (offset length n : Nat) (run : Run) (hl : 0 < length) (hsz : offset + length ≤ q.size)
    (hs : q.step offset length = .ok (n, run)) : q.runData run = .ok (slice (q.guest b) offset n) := by
  have g := geom q hc.hdr
  obtain ⟨hn1, _⟩ := step_progress q g offset length n run hl hs
  cases step_info q g offset length n run hl hs with
  | unalloc l1 hl1 hidx hrun hn =>
    rw [hc.l1ok] at hl1
    cases hl1
    subst hrun
    exact run_unalloc q hc b hb offset length n hl hidx hn
  | mapped l1 l1e e bm t cnt hl1 m hT hrun hcnt hcomp hn =>
    rw [hc.l1ok] at hl1
    cases hl1
    subst hrun
    exact run_mapped q hc b hb m length n hl hsz hcomp hn hn1

theorem read_correct (q : QCow2) (hc : Conformant q) (b : File) (hb : BackingIs q.backing b)
    (off len : Nat) (h : off + len ≤ q.size) : q.read off len = .ok (slice (q.guest b) off len) := by
  have := yieldRuns_induct q (geom q hc.hdr)
    (P := fun off len r => off + len ≤ q.size → r.bind q.execRuns = .ok (slice (q.guest b) off len))
    (fun off _ => rfl)
    (fun off len e hl hs hsz => by
      obtain ⟨n, run, hs'⟩ := step_ok q hc off len hl hsz
      rw [hs] at hs'; cases hs')
    (fun off len n run r hl hs h1 h2 _ _ ih hsz => by
      have hrun := step_correct q hc b hb off len n run hl hsz hs
      have ih := ih (by omega)
      cases r with
      | error e => cases ih
      | ok rest =>
        have hlen : len = n + (len - n) := by omega
        show q.execRuns (run :: rest) = _
        rw [QCow2.execRuns, hrun, show q.execRuns rest = _ from ih]
        conv => rhs; rw [hlen, slice_append]
        rfl)
    len off len (Nat.le_refl _) h
  exact this

theorem hdrOkb_sound (q : QCow2) (h : q.hdrOkb = true) : HdrOK q := by
  unfold QCow2.hdrOkb at h
  simp only [Bool.and_eq_true, Bool.or_eq_true, decide_eq_true_eq, Bool.not_eq_true'] at h
  obtain ⟨⟨h1, h2⟩, h3⟩ := h
  refine ⟨h1, h2, fun hs => ?_⟩
  rcases h3 with h3 | h3
  · rw [hs] at h3; cases h3
  · exact h3

theorem entryOkb_sound (q : QCow2) (c : Nat) (h : q.entryOkb c = true) : EntryOK q c := by
  unfold QCow2.entryOkb at h
  simp only [Bool.and_eq_true, decide_eq_true_eq] at h
  obtain ⟨hin, h⟩ := h
  by_cases h62 : (q.entryAt c).testBit 62 = true
  · rw [if_pos h62] at h
    simp only [Bool.and_eq_true, decide_eq_true_eq] at h
    have hf : ∀ {P : Prop}, (q.entryAt c).testBit 62 = false → P := fun h => by rw [h62] at h; cases h
    exact ⟨hin, fun _ => h, hf, hf, hf, hf, hf⟩
  · rw [if_neg h62] at h
    simp only [Bool.and_eq_true] at h
    obtain ⟨hoff0, hsub⟩ := h
    refine ⟨hin, fun h => absurd h h62, fun _ ho h63 => by simpa [ho, h63] using hoff0,
      fun _ hs hz hna => ?_, fun _ hs i hi hb => ?_, fun _ hs ho h63 i hi => ?_, fun _ hs ⟨i, hi, ha⟩ => ?_⟩
    all_goals simp only [hs, if_true, Bool.false_eq_true, if_false, Bool.and_eq_true, List.all_eq_true, List.mem_range] at hsub
    · simpa [hz, hna] using hsub
    · simpa [hb.1, hb.2] using hsub.1.1 i hi
    · have := hsub.1.2; simp [ho, h63] at this; exact this i hi
    · have := hsub.2
      simp only [Bool.or_eq_true, Bool.not_eq_true', List.any_eq_false, List.mem_range, decide_eq_true_eq] at this
      rcases this with h | h
      · exact absurd ha (by simpa using h i hi)
      · exact h

theorem conformantb_sound (q : QCow2) (h : q.conformantb = true) : Conformant q := by
  unfold QCow2.conformantb at h
  simp only [Bool.and_eq_true, decide_eq_true_eq, List.all_eq_true, List.mem_range, Bool.or_eq_true,
    Bool.not_eq_true', decide_eq_false_iff_not] at h
  obtain ⟨⟨h1, h2⟩, h3⟩ := h
  refine ⟨hdrOkb_sound q h1, h2, fun c hc hl1 hl2 => ?_⟩
  rcases h3 c hc with (h | h) | h
  · exact absurd hl1 h
  · exact absurd h hl2
  · exact entryOkb_sound q c h

/-! ### the range evaluator of the driver computes `guest` -/

theorem guestVia_eq (q : QCow2) (b : File) (o : Nat) :
    q.guestVia b (q.cview (o / q.clusterSize)) o = q.guest b o := by
  unfold QCow2.guestVia QCow2.cview QCow2.guest
  simp only []
  by_cases h1 : q.l1Size ≤ o / q.clusterSize / q.l2n
  · simp only [if_pos h1, if_true]
  · rw [if_neg h1, if_neg h1]
    by_cases h2 : q.l2Off (o / q.clusterSize) = 0
    · simp only [if_pos h2, if_true]
    · rw [if_neg h2, if_neg h2]
      simp only [Bool.true_eq_false, if_false]
      by_cases h62 : (q.entryAt (o / q.clusterSize)).testBit 62 = true
      · simp only [h62, if_true]
        cases q.decomp (q.entryAt (o / q.clusterSize)) with
        | error e => rfl
        | ok d =>
          simp only [Array.getD, List.getD_eq_getElem?_getD, List.size_toArray]
          split
          · rename_i h; simp only [Array.getInternal_eq_getElem, List.getElem_toArray, List.getElem?_eq_getElem h, Option.getD_some]
          · rename_i h; rw [List.getElem?_eq_none (by omega)]; rfl
      · simp only [h62, if_false, Bool.false_eq_true]

end Hv.Qcow2
