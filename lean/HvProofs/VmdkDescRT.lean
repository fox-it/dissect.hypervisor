/- Completeness of the direct extent-line parser on canonically written pieces (`parseRaw_complete`); the printer
   (`natDigits`, `wf_valid`, `raw_toExtent`) and the round trip `parse ∘ print` on `wfExtent` (`extentLine_rt`); a printed
   line does not end with a space character (`lastOk_valid`). -/
import HvProofs.VmdkDesc
import HvProofs.Lists
namespace Hv.VmdkDesc
open Hv Hv.Regex

/-! ### when the scanners give a written text back -/

/-- for an absent piece, `next` must reject whatever is left after a token (else the token would have been taken) -/
theorem optThen_complete {β : Type} {P : Char → Bool} {next : Str → Option β} {o : Piece} {b : β} {rest : Str}
    (hok : pieceOk P o = true) (hn : next rest = some b) (hrest : ∀ x, rest.head? = some x → P x = false)
    (hnone : o = none → ∀ w tok r, tokenThen P rest = some (w, tok, r) → next r = none) :
    optThen P next (optPiece o ++ rest) = some (o, b) := by
  unfold optThen
  cases o with
  | some p =>
    obtain ⟨w, tok⟩ := p
    simp only [pieceOk, Bool.and_eq_true, Bool.not_eq_true', List.isEmpty_eq_false_iff] at hok
    rw [show optPiece (some (w, tok)) ++ rest = w :: (tok ++ rest) from rfl,
      tokenThen_iff.mpr ⟨rfl, hok.1.1, hok.1.2, hok.2, hrest⟩]
    simp [hn]
  | none =>
    rw [show optPiece none ++ rest = rest from rfl]
    cases ht : tokenThen P rest with
    | none => simp [hn]
    | some v =>
      obtain ⟨w, tok, r⟩ := v
      simp [hnone rfl w tok r ht, hn]

/-- the words contain no space character and `next` accepts nothing that begins with another character:
    a word followed by a text that `next` accepts can be cut in one way only, so the order of the words is immaterial -/
theorem wordsThen_complete {β : Type} {ws : List Str} {next : Str → Option β} {b : β}
    (hws : ∀ w ∈ ws, ∀ c ∈ w, isSp c = false)
    (hnext : ∀ x xs, isSp x = false → next (x :: xs) = none) {T rest : Str} (hT : T ∈ ws) (h : next rest = some b) :
    wordsThen ws next (T ++ rest) = some (T, b) := by
  -- a longer word would put one of its characters in front of an accepted text
  have key : ∀ {v v' r r' : Str} {y : β}, v <+: v' → v ++ r = v' ++ r' → (∀ c ∈ v', isSp c = false) →
      next r = some y → v = v' := by
    rintro v v' r r' y ⟨m, rfl⟩ e hv hy
    cases m with
    | nil => exact (List.append_nil v).symm
    | cons c m' =>
      rw [List.append_assoc, List.append_cancel_left_eq] at e
      rw [e, List.cons_append, hnext c _ (hv c (by simp))] at hy
      cases hy
  cases hr : wordsThen ws next (T ++ rest) with
  | none =>
    have := List.findSome?_eq_none_iff.mp hr T hT
    simp [List.isPrefixOf_iff_prefix.mpr (List.prefix_append T rest), h] at this
  | some wb =>
    obtain ⟨w, b'⟩ := wb
    obtain ⟨hw, r', e, hb'⟩ := wordsThen_sound hr
    have hwT : T = w := by
      rcases List.prefix_or_prefix_of_prefix (List.prefix_append T rest) (e ▸ List.prefix_append w r') with hp | hp
      · exact key hp e (hws w hw) h
      · exact (key hp e.symm (hws T hT) hb').symm
    subst hwT
    rw [List.append_cancel_left_eq] at e
    rw [← e, h] at hb'
    rw [Option.some.inj hb']

theorem optPiece_none : optPiece none = [] := rfl

theorem pieces_head_isSp {P : Char → Bool} {o : Piece} {r : Str} (ho : pieceOk P o = true)
    (hr : ∀ x, r.head? = some x → isSp x = true) : ∀ x, (optPiece o ++ r).head? = some x → isSp x = true := by
  cases o with
  | none => exact hr
  | some p =>
    intro x hx
    cases hx
    exact (pieceOk_some.mp ho).1

theorem pieces_head_nil {p : Char → Prop} : ∀ x, ([] : Str).head? = some x → p x := fun _ h => nomatch h

theorem dropWhile_stops (P : Char → Bool) (t r : Str) (h : t.all P = false) :
    ∃ x xs, x ∈ t ∧ P x = false ∧ (t ++ r).dropWhile P = x :: xs := by
  induction t with
  | nil => simp at h
  | cons c cs ih =>
    by_cases hc : P c = true
    · have : cs.all P = false := by simpa [hc] using h
      obtain ⟨x, xs, hx, hpx, he⟩ := ih this
      exact ⟨x, xs, List.mem_cons_of_mem _ hx, hpx, by simp [hc, he]⟩
    · exact ⟨c, cs ++ r, List.mem_cons_self, by simpa using hc, by simp [hc]⟩

theorem closeQ_noquote (s : Str) (h : ∀ c ∈ s, c ≠ '"') : closeQ s = none := by
  induction s with
  | nil => rfl
  | cons c cs ih =>
    have hc : c ≠ '"' := h c List.mem_cons_self
    have := ih (fun c' hc' => h c' (List.mem_cons_of_mem _ hc'))
    simp only [closeQ, this, hc, if_false, ite_self]

theorem closeQ_complete (pre rest : Str) (t : Piece × Piece × Piece) (hpre : ∀ c ∈ pre, c ≠ '\n')
    (hrest : closeQ rest = none) (ht : tailStart rest = some t) :
    closeQ (pre ++ '"' :: rest) = some (pre.length, t) := by
  induction pre with
  | nil => simp [closeQ, hrest, ht]
  | cons c cs ih =>
    have hc : c ≠ '\n' := hpre c List.mem_cons_self
    have := ih (fun c' hc' => hpre c' (List.mem_cons_of_mem _ hc'))
    simp [closeQ, hc, this]

theorem piece_noquote (P : Char → Bool) (o : Piece) (hok : pieceOk P o = true) (hq : noQuote o = true) :
    ∀ c ∈ optPiece o, c ≠ '"' := by
  cases o with
  | none => intro c hc; cases hc
  | some p =>
    obtain ⟨w, t⟩ := p
    intro c hc
    rw [optPiece_some, List.mem_cons] at hc
    rcases hc with rfl | hc
    · intro h; subst h
      exact absurd (pieceOk_some.mp hok).1 (by rw [quote_isSp]; decide)
    · have := (List.all_eq_true.mp hq) c hc
      simpa using this

theorem digits_noQuote (o : Piece) (hok : pieceOk isDg o = true) : noQuote o = true := by
  cases o with
  | none => rfl
  | some p =>
    obtain ⟨w, t⟩ := p
    simp only [noQuote, List.all_eq_true]
    intro c hc
    have := (List.all_eq_true.mp (pieceOk_some.mp hok).2.2) c hc
    simp only [bne_iff_ne, ne_eq]
    intro h; subst h
    exact absurd this (by rw [quote_isDg]; decide)

theorem tailStart_complete {st u d : Piece} (hs : pieceOk isDg st = true) (hu : pieceOk isNsp u = true)
    (hd : pieceOk isNsp d = true) (hpos : (d.isNone || u.isSome) = true)
    (hdig : (st.isSome || notAllDigits u) = true) :
    tailStart (optPiece st ++ (optPiece u ++ optPiece d)) = some (st, u, d) := by
  have hD : tailDev (optPiece d) = some d := by
    have := optThen_complete (next := endOk) (rest := []) hd rfl pieces_head_nil (fun _ w tok r h => by cases h)
    rw [tailDev_eq, ← List.append_nil (optPiece d), this]
    rfl
  have hU : tailUuid (optPiece u ++ optPiece d) = some (u, d) := by
    rw [tailUuid_eq]
    refine optThen_complete hu hD (fun x hx => ?_) (fun hn w tok r h => ?_)
    · have := pieces_head_isSp hd pieces_head_nil x (by simpa using hx)
      simp [isNsp, this]
    · -- fields are positional: without a uuid there is no device identifier, nothing is left to scan
      subst hn
      cases d with
      | none => cases h
      | some _ => cases hpos
  rw [tailStart_eq]
  refine optThen_complete hs hU (fun x hx => ?_) (fun hn w tok r h => ?_)
  · exact isSp_not_isDg x (pieces_head_isSp hu (pieces_head_isSp hd pieces_head_nil) x (by simpa using hx))
  · -- without a start sector the uuid is not all digits: the digit scan stops inside it, at a non-space character
    subst hn
    cases u with
    | none =>
      cases d with
      | none => cases h
      | some _ => cases hpos
    | some q =>
      obtain ⟨w', t⟩ := q
      simp only [Option.isSome_none, Bool.false_or, notAllDigits, Bool.not_eq_true'] at hdig
      obtain ⟨x, xs, hx, -, he⟩ := dropWhile_stops isDg t (optPiece d) hdig
      obtain ⟨e, -, -, hall, hrest⟩ := tokenThen_iff.mp h
      have hr := (takeWhile_dropWhile_iff.mpr ⟨(List.cons.inj e).2, hall, hrest⟩).2
      rw [← hr]
      show tailUuid ((t ++ optPiece d).dropWhile isDg) = none
      rw [he]
      exact tailUuid_nonspace x xs (isNsp_not_isSp x (List.all_eq_true.mp (pieceOk_some.mp hu).2.2 x hx))

theorem tailName_complete {fn st u d : Piece} (hf : namePieceOk fn = true) (hs : pieceOk isDg st = true)
    (hu : pieceOk isNsp u = true) (hd : pieceOk isNsp d = true) (hpos : (d.isNone || u.isSome) = true)
    (hdig : (st.isSome || notAllDigits u) = true) (hqu : noQuote u = true) (hqd : noQuote d = true) :
    tailName (optPiece fn ++ (optPiece st ++ (optPiece u ++ optPiece d))) = some (fn, st, u, d) := by
  have hT := tailStart_complete hs hu hd hpos hdig
  have hQ : ∀ c ∈ optPiece st ++ (optPiece u ++ optPiece d), c ≠ '"' := by
    intro c hc
    simp only [List.mem_append] at hc
    rcases hc with hc | hc | hc
    · exact piece_noquote _ st hs (digits_noQuote st hs) c hc
    · exact piece_noquote _ u hu hqu c hc
    · exact piece_noquote _ d hd hqd c hc
  generalize hR : optPiece st ++ (optPiece u ++ optPiece d) = R at hT hQ
  cases fn with
  | none =>
    simp only [optPiece_none, List.nil_append]
    unfold tailName
    split
    · rename_i w q x xs
      have hq : q ≠ '"' := hQ q (by simp)
      have : (q == '"') = false := by simpa using hq
      simp [this, hT]
    · simp [hT]
  | some p =>
    obtain ⟨w, t⟩ := p
    obtain ⟨x, pre, rfl, hw, hx, hnl⟩ := namePieceOk_some.mp hf
    have hc := closeQ_complete pre R _ hnl (closeQ_noquote R hQ) hT
    have hx' : (x != '\n') = true := by simpa using hx
    have e : optPiece (some (w, '"' :: x :: (pre ++ ['"']))) ++ R = w :: '"' :: x :: (pre ++ '"' :: R) := by
      simp [optPiece]
    rw [e]
    simp [tailName, hw, hx', hc]

theorem typeWords_nonspace : ∀ w ∈ typeWords, w ≠ [] ∧ ∀ c ∈ w, isSp c = false := by decide +kernel
theorem accessWords_nonspace : ∀ w ∈ accessWords, ∀ c ∈ w, isSp c = false := by decide +kernel

/-- every valid, canonical `Raw` is what its own line parses to: any space characters as separators, any Unicode digits,
    any quoted name (inner `"`, spaces, `=`, `#` included) -/
theorem parseRaw_complete (F : Raw) (hv : F.validb = true) (hc : F.canonb = true) : parseRaw F.line = some F := by
  obtain ⟨a, w1, ds, w2, ty, fn, st, u, d⟩ := F
  simp only [Raw.validb, Bool.and_eq_true, Bool.not_eq_true', List.contains_iff_mem, List.isEmpty_eq_false_iff] at hv
  obtain ⟨⟨⟨⟨⟨⟨⟨⟨⟨ha, h1⟩, hne⟩, hds⟩, h2⟩, hty⟩, hfn⟩, hst⟩, hu⟩, hd⟩ := hv
  simp only [Raw.canonb, Bool.and_eq_true] at hc
  obtain ⟨⟨⟨hpos, hqu⟩, hqd⟩, hdig⟩ := hc
  have hT := wordsThen_complete (fun w hw => (typeWords_nonspace w hw).2) tailName_nonspace hty
    (tailName_complete hfn hst hu hd hpos hdig hqu hqd)
  rw [parseRaw_eq, Raw.line, wordsThen_complete accessWords_nonspace
    (fun x xs hx => by simp [afterAccess, tokenThen_nonspace _ x xs hx]) ha (b := (w1, ds, w2, ty, fn, st, u, d))]
  · rfl
  · rw [afterAccess, tokenThen_iff.mpr ⟨rfl, h1, hne, hds, fun _ hx => by cases hx; exact isSp_not_isDg _ h2⟩]
    simp only [h2, if_true, show typeThen _ = _ from hT, Option.map_some]

theorem digit_isDg : ∀ d, d < 10 → isDg (digitChar d) = true := by decide
theorem digit_val : ∀ d, d < 10 → digitVal tables (digitChar d).toNat = some d := by decide

theorem parseInt_snoc (s : Str) (c : Char) :
    parseInt (s ++ [c]) = match parseInt s, digitVal tables c.toNat with
      | some a, some d => some (a * 10 + d)
      | _, _ => none := by
  unfold parseInt
  rw [List.foldl_append]
  rfl

theorem natDigitsF_spec : ∀ (f n : Nat), n < f →
    (natDigitsF f n).isEmpty = false ∧ (natDigitsF f n).all isDg = true ∧ parseInt (natDigitsF f n) = some n := by
  intro f
  induction f with
  | zero => intro n h; omega
  | succ f ih =>
    intro n hn
    rw [natDigitsF]
    split
    · rename_i h
      refine ⟨rfl, by simp [digit_isDg n h], ?_⟩
      simp [parseInt, digit_val n h]
    · rename_i h
      obtain ⟨i1, i2, i3⟩ := ih (n / 10) (by omega)
      have hm : n % 10 < 10 := by omega
      refine ⟨by simp, by simp [i2, digit_isDg _ hm], ?_⟩
      rw [parseInt_snoc, i3, digit_val _ hm]
      simp only [Option.some.injEq]
      omega

theorem natDigits_spec (n : Nat) :
    (natDigits n).isEmpty = false ∧ (natDigits n).all isDg = true ∧ parseInt (natDigits n) = some n :=
  natDigitsF_spec (n + 1) n (by omega)

theorem strip_quotes (n : Str) (hh : n.head? ≠ some '"') (hl : n.getLast? ≠ some '"') :
    stripChars ['"'] ('"' :: (n ++ ['"'])) = n := by
  have hq : ∀ o : Option Char, o ≠ some '"' → ∀ x, o = some x → (['"'].contains x) = false := by
    rintro _ h x rfl
    have : x ≠ '"' := fun e => h (e ▸ rfl)
    simpa using this
  show trimBoth (fun c => ['"'].contains c) (['"'] ++ (n ++ ['"'])) = n
  exact trimBoth_sandwich _ ['"'] n ['"'] (by simp) (by simp) (hq _ hh) (hq _ hl)

theorem wf_valid (e : ExtentSpec) (h : wfExtent e = true) : e.raw.validb = true ∧ e.raw.canonb = true := by
  simp only [wfExtent, Bool.and_eq_true] at h
  obtain ⟨⟨⟨⟨⟨⟨ha, hty⟩, hn⟩, hu⟩, hd⟩, hpos⟩, hdig⟩ := h
  obtain ⟨n1, n2, -⟩ := natDigits_spec e.sectors
  have hsp : isSp ' ' = true := by decide
  have tok : ∀ o : Option Str, tokOk o = true →
      pieceOk isNsp (o.map (fun u => (' ', u))) = true ∧ noQuote (o.map (fun u => (' ', u))) = true := by
    intro o ho
    cases o with
    | none => exact ⟨rfl, rfl⟩
    | some t =>
      simp only [tokOk, Bool.and_eq_true, Bool.not_eq_true', List.isEmpty_eq_false_iff, List.all_eq_true] at ho
      exact ⟨pieceOk_some.mpr ⟨hsp, ho.1, List.all_eq_true.mpr fun c hc => (ho.2 c hc).1⟩,
        List.all_eq_true.mpr fun c hc => (ho.2 c hc).2⟩
  have hname : namePieceOk (e.filename.map (fun n => (' ', '"' :: (n ++ ['"'])))) = true := by
    cases hf : e.filename with
    | none => rfl
    | some n =>
      rw [hf] at hn
      simp only [nameOk, Bool.and_eq_true, Bool.not_eq_true', List.all_eq_true, bne_iff_ne] at hn
      cases n with
      | nil => simp at hn
      | cons x pre =>
        exact namePieceOk_some.mpr ⟨x, pre, rfl, hsp, hn.1.1.2 x List.mem_cons_self,
          fun c hc => hn.1.1.2 c (List.mem_cons_of_mem _ hc)⟩
  have hstart : pieceOk isDg (e.start.map (fun n => (' ', natDigits n))) = true := by
    cases e.start with
    | none => rfl
    | some n =>
      obtain ⟨m1, m2, -⟩ := natDigits_spec n
      simp [pieceOk, hsp, m1, m2]
  constructor
  · simp only [Raw.validb, ExtentSpec.raw, ha, hty, hsp, n1, n2, hname, hstart, (tok _ hu).1, (tok _ hd).1]
    rfl
  · simp only [Raw.canonb, ExtentSpec.raw, (tok _ hu).2, (tok _ hd).2, Option.isNone_map, Option.isSome_map, hpos, hdig]
    rfl

theorem raw_line (e : ExtentSpec) : e.raw.line = printExtentLine e := rfl

theorem raw_toExtent (e : ExtentSpec) (h : wfExtent e = true) (line : Str) :
    e.raw.toExtent line = some ⟨line, e.access, e.sectors, e.type, e.filename, e.start, e.uuid, e.dev⟩ := by
  simp only [wfExtent, Bool.and_eq_true] at h
  obtain ⟨⟨⟨⟨⟨⟨-, -⟩, hn⟩, -⟩, -⟩, -⟩, -⟩ := h
  obtain ⟨-, -, n3⟩ := natDigits_spec e.sectors
  have hfn : (e.filename.map (fun n => (' ', '"' :: (n ++ ['"'])))).map
      (fun p => if p.2.isEmpty then p.2 else stripChars ['"'] p.2) = e.filename := by
    cases hf : e.filename with
    | none => rfl
    | some n =>
      rw [hf] at hn
      simp only [nameOk, Bool.and_eq_true, Bool.not_eq_true', bne_iff_ne] at hn
      simp only [Option.map_some, List.isEmpty_cons, Bool.false_eq_true, if_false]
      rw [strip_quotes n hn.1.2 hn.2]
  simp only [Raw.toExtent, ExtentSpec.raw, n3, hfn, Option.map_map]
  cases hs : e.start with
  | none => simp [Function.comp_def]
  | some n =>
    obtain ⟨m1, -, m3⟩ := natDigits_spec n
    simp [m1, m3, Function.comp_def]

theorem strip_id (s : Str) (hh : ∀ c, s.head? = some c → isSp c = false)
    (hl : ∀ c, s.getLast? = some c → isSp c = false) : strip s = s := by
  show trimBoth isSp s = s
  have := trimBoth_sandwich isSp [] s [] (by simp) (by simp) hh hl
  rwa [List.nil_append, List.append_nil] at this

theorem extentLine_rt (e : ExtentSpec) (h : wfExtent e = true) :
    parseExtentLine (printExtentLine e) = some e.toExtent := by
  rw [parseExtentLine_eq_direct, parseExtentLine_direct, ← raw_line,
    parseRaw_complete e.raw (wf_valid e h).1 (wf_valid e h).2]
  show e.raw.toExtent e.raw.line = _
  rw [raw_toExtent e h]
  rfl

/-- the last character, if any, is not a space character (what `strip` needs at the right end) -/
def LastOk (s : Str) : Prop := ∀ c, s.getLast? = some c → isSp c = false

theorem lastOk_append_ne (a b : Str) (hb : b ≠ []) (h : LastOk b) : LastOk (a ++ b) := by
  intro c hc
  rw [List.getLast?_append] at hc
  cases hbl : b.getLast? with
  | none => exact absurd (List.getLast?_eq_none_iff.mp hbl) hb
  | some x =>
    rw [hbl] at hc
    exact h c (by rw [hbl]; exact hc)

theorem lastOk_append (a b : Str) (ha : LastOk a) (hb : LastOk b) : LastOk (a ++ b) := by
  cases b with
  | nil => simpa using ha
  | cons x xs => exact lastOk_append_ne a _ (by simp) hb

theorem lastOk_cons (c : Char) (s : Str) (hs : s ≠ []) (h : LastOk s) : LastOk (c :: s) :=
  lastOk_append_ne [c] s hs h

theorem lastOk_of_nonspace (s : Str) (h : ∀ c ∈ s, isSp c = false) : LastOk s :=
  fun c hc => h c (List.mem_of_getLast? hc)

theorem lastOk_piece {P : Char → Bool} (hP : ∀ c, P c = true → isSp c = false) {o : Piece}
    (h : pieceOk P o = true) : LastOk (optPiece o) := by
  cases o with
  | none => exact nofun
  | some p =>
    obtain ⟨-, hne, hall⟩ := pieceOk_some.mp h
    exact lastOk_cons _ _ hne (lastOk_of_nonspace _ fun c hc => hP c (List.all_eq_true.mp hall c hc))

theorem lastOk_valid (F : Raw) (hv : F.validb = true) : LastOk F.line := by
  simp only [Raw.validb, Bool.and_eq_true, List.contains_iff_mem] at hv
  obtain ⟨⟨⟨⟨⟨-, hty⟩, hfn⟩, hst⟩, hu⟩, hd⟩ := hv
  have hT := typeWords_nonspace F.type hty
  have hN : LastOk (optPiece F.filename) := by
    cases hf : F.filename with
    | none => exact nofun
    | some p =>
      obtain ⟨x, pre, e, -⟩ := namePieceOk_some.mp (hf ▸ hfn)
      rw [optPiece_some, e]
      exact lastOk_append_ne (p.1 :: '"' :: x :: pre) ['"'] (by simp) (fun c hc => by cases hc; exact quote_isSp)
  refine lastOk_append_ne _ _ (by simp) (lastOk_cons _ _ (by simp) (lastOk_append_ne _ _ (by simp)
    (lastOk_cons _ _ (by simp [hT.1]) ?_)))
  exact lastOk_append _ _ (lastOk_of_nonspace _ hT.2) (lastOk_append _ _ hN (lastOk_append _ _
    (lastOk_piece isDg_not_isSp hst) (lastOk_append _ _ (lastOk_piece isNsp_not_isSp hu) (lastOk_piece isNsp_not_isSp hd))))

end Hv.VmdkDesc
