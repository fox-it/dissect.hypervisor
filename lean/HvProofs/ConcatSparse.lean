/-
  `ReadAs` / `GoodCtor` instantiated for sparse extents (hosted sparse, COWD, SE-sparse: `sparse_readSectors_correct`;
  stream-optimised: `compressed_readSectors_correct`), and for descriptors mixing flat, sparse and unwired extents.
-/
import HvProofs.Concat
import HvProofs.Vmdk
import HvProofs.VmdkComp
namespace Hv.Concat
open Hv Hv.Vmdk

/-- the extent object `VMDK.__init__` builds: `SparseDisk(fh, parent, sector_offset = running sector count)` -/
def sparseAt (sp : Sparse) (so : Nat) : Sparse := { sp with sectorOffset := so }
def sparseCtor (sp : Sparse) : Nat → Vmdk.Disk := fun so => sparseDisk (sparseAt sp so)

theorem sparse_good (sp : Sparse) (hpos : 0 < sp.capacity) : GoodCtor (sparseCtor sp) :=
  fun _ => ⟨rfl, hpos, rfl⟩

/-- a well-formed sparse extent placed at `so` reads as its own guest content (`Sparse.guest`; with a parent, the
    parent's bytes at the extent's absolute position show through absent grains) -/
theorem sparse_reads (sp : Sparse) (pc : Nat → UInt8) (so : Nat) (hwf : WF sp) (hp : ParentOK sp pc) :
    DiskReads (sparseCtor sp so) ⟨sp.capacity, (sparseAt sp so).guest pc⟩ :=
  ⟨rfl, sparse_readSectors_correct (sparseAt sp so) pc
    ⟨hwf.uncompressed, hwf.gs_pos, hwf.gt_pos, hwf.covers, hwf.lookup, hwf.grains_in⟩ hp⟩

theorem compressed_reads (sp : Sparse) (content : Nat → Bytes) (pc : Nat → UInt8) (so : Nat) (hwf : WFc sp content)
    (hp : ParentOK sp pc) :
    DiskReads (sparseCtor sp so) ⟨sp.capacity, (sparseAt sp so).guestC content pc⟩ :=
  ⟨rfl, compressed_readSectors_correct (sparseAt sp so) content pc
    ⟨hwf.compressed, hwf.gs_pos, hwf.gt_pos, hwf.covers, hwf.lookup, hwf.record_in, hwf.inflates⟩ hp⟩

theorem guest_sparseAt (sp : Sparse) (so : Nat) (pc : Nat → UInt8) (h : sp.parent = none) :
    (sparseAt sp so).guest pc = sp.guest (fun _ => 0) := by
  funext o
  simp only [Sparse.guest, sparseAt, h]
  rfl

/-- an extent of a descriptor, as `VMDK.__init__` sees it after the wiring (`VmdkDesc.wire`) -/
inductive Ext where
  | flat (fh : File) (sectors : Nat)        -- FLAT / VMFS → `RawDisk(fh, sectors * 512)`
  | sparse (sp : Sparse)                    -- SPARSE / VMFSSPARSE / SESPARSE → `SparseDisk`
  | compressed (sp : Sparse) (content : Nat → Bytes)   -- SPARSE, stream-optimised: `SparseDisk` with compressed grains
  | unwired (sectors : Nat)                 -- ZERO / VMFSRDM / VMFSRAW: accepted by the grammar, **not mapped** (finding D20)

/-- the hypotheses per extent: a flat file holds its extent; a sparse extent satisfies those of `sparse_readSectors_correct`
    (`compressed_readSectors_correct`) -/
def Ext.OK (pc : Nat → UInt8) : Ext → Prop
  | .flat fh n => 0 < n ∧ n * 512 ≤ fh.size
  | .sparse sp => WF sp ∧ ParentOK sp pc ∧ 0 < sp.capacity
  | .compressed sp content => WFc sp content ∧ ParentOK sp pc ∧ 0 < sp.capacity
  | .unwired _ => True

/-- the constructors `VMDK.__init__` appends, in descriptor order (unwired extents append nothing) -/
def extCtors : List Ext → List (Nat → Vmdk.Disk)
  | [] => []
  | .flat fh n :: es => rawDisk fh (some (n * 512)) :: extCtors es
  | .sparse sp :: es => sparseCtor sp :: extCtors es
  | .compressed sp _ :: es => sparseCtor sp :: extCtors es
  | .unwired _ :: es => extCtors es

/-- the parts the assembled disk reads as, extent `i` placed at the running sector count `start` -/
def extParts (pc : Nat → UInt8) : Nat → List Ext → List Part
  | _, [] => []
  | start, .flat fh n :: es => ⟨n, fh.byte⟩ :: extParts pc (start + n) es
  | start, .sparse sp :: es => ⟨sp.capacity, (sparseAt sp start).guest pc⟩ :: extParts pc (start + sp.capacity) es
  | start, .compressed sp content :: es =>
    ⟨sp.capacity, (sparseAt sp start).guestC content pc⟩ :: extParts pc (start + sp.capacity) es
  | start, .unwired _ :: es => extParts pc start es

theorem ext_good (pc : Nat → UInt8) : ∀ (es : List Ext), (∀ e ∈ es, e.OK pc) → ∀ f ∈ extCtors es, GoodCtor f
  | [], _, f, hf => by cases hf
  | e :: es, h, f, hf => by
    have ih := ext_good pc es (fun e he => h e (List.mem_cons_of_mem _ he)) f
    have he := h e List.mem_cons_self
    cases e with
    | flat fh n => exact (List.mem_cons.mp hf).elim (· ▸ rawDisk_good fh n he.1) ih
    | sparse sp => exact (List.mem_cons.mp hf).elim (· ▸ sparse_good sp he.2.2) ih
    | compressed sp _ => exact (List.mem_cons.mp hf).elim (· ▸ sparse_good sp he.2.2) ih
    | unwired _ => exact ih hf

theorem ext_readAs (pc : Nat → UInt8) : ∀ (es : List Ext) (start : Nat), (∀ e ∈ es, e.OK pc) →
    ReadAs (place start (extCtors es)) (extParts pc start es)
  | [], _, _ => trivial
  | e :: es, start, h => by
    have ih := fun s => ext_readAs pc es s (fun e he => h e (List.mem_cons_of_mem _ he))
    have he := h e List.mem_cons_self
    cases e with
    | flat fh n =>
      have hr := rawDisk_reads fh n start he.1 he.2
      exact ⟨hr, hr.1 ▸ ih _⟩
    | sparse sp => exact ⟨sparse_reads sp pc start he.1 he.2.1, ih _⟩
    | compressed sp content => exact ⟨compressed_reads sp content pc start he.1 he.2.1, ih _⟩
    | unwired _ => exact ih start

/-- sectors the descriptor declares / sectors the assembled disk has -/
def declared : List Ext → Nat
  | [] => 0
  | .flat _ n :: es => n + declared es
  | .sparse sp :: es => sp.capacity + declared es
  | .compressed sp _ :: es => sp.capacity + declared es
  | .unwired n :: es => n + declared es
def unwiredSectors : List Ext → Nat
  | [] => 0
  | .unwired n :: es => n + unwiredSectors es
  | _ :: es => unwiredSectors es

theorem total_extParts (pc : Nat → UInt8) : ∀ (es : List Ext) (start : Nat),
    total (extParts pc start es) + unwiredSectors es = declared es
  | [], _ => rfl
  | e :: es, start => by
    have ih := fun s => total_extParts pc es s
    cases e with
    | flat _ n => exact (Nat.add_assoc _ _ _).trans (congrArg _ (ih _))
    | sparse sp => exact (Nat.add_assoc _ _ _).trans (congrArg _ (ih _))
    | compressed sp _ => exact (Nat.add_assoc _ _ _).trans (congrArg _ (ih _))
    | unwired n => exact (Nat.add_left_comm _ _ _).trans (congrArg _ (ih _))

/-- the parts of a list of sparse extents placed back to back from `start` -/
def sparseParts (pc : Nat → UInt8) : Nat → List Sparse → List Part
  | _, [] => []
  | start, sp :: r => ⟨sp.capacity, (sparseAt sp start).guest pc⟩ :: sparseParts pc (start + sp.capacity) r

theorem extParts_sparse (pc : Nat → UInt8) : ∀ (sps : List Sparse) (start : Nat),
    extParts pc start (sps.map Ext.sparse) = sparseParts pc start sps
  | [], _ => rfl
  | sp :: r, start => by simp only [List.map_cons, extParts, sparseParts, extParts_sparse pc r]

theorem extCtors_sparse : ∀ (sps : List Sparse), extCtors (sps.map Ext.sparse) = sps.map sparseCtor
  | [] => rfl
  | sp :: r => by simp only [List.map_cons, extCtors, extCtors_sparse r]

theorem total_sparseParts (pc : Nat → UInt8) : ∀ (sps : List Sparse) (start : Nat),
    total (sparseParts pc start sps) = (sps.map (·.capacity)).sum
  | [], _ => rfl
  | sp :: r, start => by simp only [sparseParts, total, List.map_cons, List.sum_cons, total_sparseParts pc r]

/-- extents without a parent: the parts are the extents' own guest contents, whatever the placement — this is
    the part list the driver's `vmdk.concatcheck` evaluates -/
theorem sparseParts_noparent (pc : Nat → UInt8) : ∀ (sps : List Sparse) (start : Nat), (∀ sp ∈ sps, sp.parent = none) →
    sparseParts pc start sps = sps.map (fun sp => ⟨sp.capacity, sp.guest (fun _ => 0)⟩)
  | [], _, _ => rfl
  | sp :: r, start, h => by
    simp only [sparseParts, List.map_cons, guest_sparseAt sp start pc (h sp List.mem_cons_self),
      sparseParts_noparent pc r _ (fun x hx => h x (List.mem_cons_of_mem _ hx))]

end Hv.Concat
