import Hv.Stream
import HvProofs.Basic
import HvProofs.Outcome
namespace Hv

abbrev Rd := Nat → Nat → Except Err Bytes

/-- What the buffered layer needs from a backend `_read`:
  * for an aligned offset inside the stream and any positive length (possibly running past
    the end) the call succeeds and its first `min len (size-off)` bytes are the content;
  * for aligned in-range requests it returns exactly the requested bytes. -/
structure BackendOK (size align : Nat) (rd : Rd) (c : Nat → UInt8) : Prop where
  prefix_ok : ∀ off len, off % align = 0 → off < size → 0 < len →
      ∃ b, rd off len = .ok b ∧ b.take (min len (size - off)) = slice c off (min len (size - off))
  exact_ok : ∀ off len, off % align = 0 → len % align = 0 → off + len ≤ size →
      rd off len = .ok (slice c off len)

/-- The part of `BackendOK` the buffered layer actually uses: the only requests that may run past the
    end are the buffer fills `rd off align` (aligned `off < size`); whole-block requests are in range.
    A backend whose tables are only known to be well-formed up to `roundup(size, align)` — QCOW2 — satisfies this
    weaker contract. -/
structure BackendOKAt (size align : Nat) (rd : Rd) (c : Nat → UInt8) : Prop where
  prefix_ok : ∀ off, off % align = 0 → off < size → 0 < align →
      ∃ b, rd off align = .ok b ∧ b.take (min align (size - off)) = slice c off (min align (size - off))
  exact_ok : ∀ off len, off % align = 0 → len % align = 0 → off + len ≤ size →
      rd off len = .ok (slice c off len)

theorem BackendOK.at {size align : Nat} {rd : Rd} {c : Nat → UInt8} (h : BackendOK size align rd c) :
    BackendOKAt size align rd c :=
  ⟨fun off h1 h2 h3 => h.prefix_ok off align h1 h2 h3, h.exact_ok⟩

/-- What every operation keeps: `posAlign` is the start of the block of `pos`, and a buffer, when there is one, holds what
    the backend answers for that block. -/
structure AS.Inv (rd : Rd) (s : AS) : Prop where
  apos : 0 < s.align
  pa : s.posAlign = s.pos - s.pos % s.align
  bufok : ∀ b, s.buf = some b → rd s.posAlign s.align = .ok b

variable {rd : Rd} {c : Nat → UInt8}

theorem AS.init_inv (size align : Nat) (h : 0 < align) : (AS.init size align).Inv rd :=
  ⟨h, by simp [AS.init], by intro b hb; cases hb⟩

@[simp] theorem AS.setPos_pos (s : AS) (p) : (s.setPos p).pos = p := by
  unfold AS.setPos; split <;> rfl
@[simp] theorem AS.setPos_size (s : AS) (p) : (s.setPos p).size = s.size := by
  unfold AS.setPos; split <;> rfl
@[simp] theorem AS.setPos_align (s : AS) (p) : (s.setPos p).align = s.align := by
  unfold AS.setPos; split <;> rfl

theorem AS.setPos_inv (s : AS) (p) (h : s.Inv rd) : (s.setPos p).Inv rd := by
  unfold AS.setPos
  split
  · exact ⟨h.apos, rfl, by intro b hb; cases hb⟩
  · rename_i hc
    have : s.posAlign = p - p % s.align := by omega
    exact ⟨h.apos, this, h.bufok⟩

/-! every stream operation keeps `size` and `align`, whatever the backend answers -/
/-- the two fields of a stream state that never change -/
def AS.shape (s : AS) : Nat × Nat := (s.size, s.align)

@[simp] theorem AS.setPos_shape (s : AS) (p : Nat) : (s.setPos p).shape = s.shape := by
  unfold AS.setPos; split <;> rfl

theorem AS.fillBuf_frame {s s' : AS} (h : s.fillBuf rd = .ok s') : s'.shape = s.shape := by
  unfold AS.fillBuf at h
  split at h
  · cases h; rfl
  · obtain ⟨b, _, h⟩ := bind_ok h
    cases h; rfl

theorem AS.head_frame {s s' : AS} {n n' : Nat} {r : Bytes} (h : s.head rd n = .ok (r, s', n')) : s'.shape = s.shape := by
  unfold AS.head at h
  split at h
  · obtain ⟨s1, hf, h⟩ := bind_ok h
    obtain ⟨b, _, h⟩ := bind_ok h
    cases h
    rw [AS.setPos_shape, AS.fillBuf_frame hf]
  · cases h; rfl

theorem AS.whole_frame {s s' : AS} {n n' : Nat} {r : Bytes} (h : s.whole rd n = .ok (r, s', n')) : s'.shape = s.shape := by
  unfold AS.whole at h
  split at h
  · obtain ⟨b, _, h⟩ := bind_ok h
    cases h
    exact AS.setPos_shape _ _
  · cases h; rfl

theorem AS.tail_frame {s s' : AS} {n : Nat} {r : Bytes} (h : s.tail rd n = .ok (r, s')) : s'.shape = s.shape := by
  unfold AS.tail at h
  split at h
  · obtain ⟨s1, hf, h⟩ := bind_ok h
    obtain ⟨b, _, h⟩ := bind_ok h
    cases h
    rw [AS.setPos_shape, AS.fillBuf_frame hf]
  · cases h; rfl

theorem AS.readNat_frame {s s' : AS} {n : Nat} {r : Bytes} (h : s.readNat rd n = .ok (r, s')) : s'.shape = s.shape := by
  unfold AS.readNat at h
  simp only at h
  split at h
  · cases h; rfl
  · obtain ⟨⟨r1, s1, n1⟩, h1, h⟩ := bind_ok h
    obtain ⟨⟨r2, s2, n2⟩, h2, h⟩ := bind_ok h
    obtain ⟨⟨r3, s3⟩, h3, h⟩ := bind_ok h
    cases h
    rw [AS.tail_frame h3, AS.whole_frame h2, AS.head_frame h1]

theorem AS.read_frame {s s' : AS} {n : Int} {r : Bytes} (h : s.read rd n = .ok (r, s')) : s'.shape = s.shape := by
  unfold AS.read at h
  split at h
  · cases h
  · split at h <;> exact AS.readNat_frame h

theorem AS.step_frame (s : AS) (op : Op) : (s.step rd op).1.shape = s.shape := by
  cases op with
  | tell => rfl
  | seek n w =>
    cases hp : s.seek n w with
    | error e => simp only [AS.step, hp]
    | ok x =>
      simp only [AS.step, hp]
      obtain ⟨p, _, h⟩ := bind_ok hp
      cases h
      exact AS.setPos_shape _ _
  | read n =>
    cases hr : s.read rd n with
    | error e => simp only [AS.step, hr]
    | ok x => simp only [AS.step, hr]; exact AS.read_frame hr
  | peek n =>
    cases hr : s.peek rd n with
    | error e => simp only [AS.step, hr]
    | ok x =>
      simp only [AS.step, hr]
      obtain ⟨⟨b, s1⟩, hr', h⟩ := bind_ok hr
      cases h
      rw [AS.setPos_shape, AS.read_frame hr']
  | readoffset o n =>
    cases hr : s.readoffset rd o n with
    | error e => simp only [AS.step, hr]
    | ok x =>
      simp only [AS.step, hr]
      obtain ⟨⟨p, s1⟩, hs, h⟩ := bind_ok hr
      obtain ⟨p', _, hs⟩ := bind_ok hs
      cases hs
      rw [AS.read_frame h, AS.setPos_shape]

theorem AS.Inv.bufPos {s : AS} (hi : s.Inv rd) : s.pos - s.posAlign = s.pos % s.align := by
  rw [hi.pa]; exact Nat.sub_sub_self (Nat.mod_le _ _)

theorem AS.Inv.posAlign_mod {s : AS} (hi : s.Inv rd) : s.posAlign % s.align = 0 := by
  have : s.pos - s.pos % s.align = s.align * (s.pos / s.align) := Nat.sub_eq_of_eq_add (Nat.div_add_mod _ _).symm
  rw [hi.pa, this, Nat.mul_mod_right]

theorem AS.Inv.withBuf {s : AS} (hi : s.Inv rd) {b : Bytes} (hrd : rd s.posAlign s.align = .ok b) :
    ({ s with buf := some b } : AS).Inv rd :=
  ⟨hi.apos, hi.pa, fun b' hb' => by cases hb'; exact hrd⟩

theorem AS.fillBuf_spec (s : AS) (hi : s.Inv rd) (hb : BackendOKAt s.size s.align rd c) (h1 : s.pos < s.size) :
    ∃ b, s.fillBuf rd = .ok { s with buf := some b } ∧ rd s.posAlign s.align = .ok b ∧
      ∀ k, s.pos + k ≤ s.size → s.pos % s.align + k ≤ s.align →
        (b.drop (s.pos - s.posAlign)).take k = slice c s.pos k := by
  have hle : s.posAlign ≤ s.pos := by rw [hi.pa]; exact Nat.sub_le _ _
  have hpos : s.posAlign + s.pos % s.align = s.pos := by rw [← hi.bufPos, Nat.add_sub_cancel' hle]
  obtain ⟨b, hrd, hX⟩ := hb.prefix_ok s.posAlign hi.posAlign_mod (Nat.lt_of_le_of_lt hle h1) hi.apos
  have hwin : ∀ k, s.pos + k ≤ s.size → s.pos % s.align + k ≤ s.align →
      (b.drop (s.pos - s.posAlign)).take k = slice c s.pos k := by
    intro k h2 h3
    have hm : s.pos % s.align + k ≤ min s.align (s.size - s.posAlign) :=
      Nat.le_min.mpr ⟨h3, Nat.le_sub_of_add_le' (by rw [← Nat.add_assoc, hpos]; exact h2)⟩
    have := slice_drop_take c s.posAlign _ _ k hm
    rwa [← hX, List.drop_take, List.take_take, Nat.min_eq_left (Nat.le_sub_of_add_le' hm), hpos, ← hi.bufPos] at this
  refine ⟨b, ?_, hrd, hwin⟩
  unfold AS.fillBuf
  by_cases ht : s.bufTruthy = true
  · -- a buffer is there: by the invariant it is the backend's answer
    rw [if_pos (Or.inl ht)]
    obtain ⟨size, align, pos, posAlign, buf⟩ := s
    cases buf with
    | none => cases ht
    | some b' =>
      have := hi.bufok b' rfl
      rw [hrd] at this
      rw [Except.ok.inj this]
  · rw [if_neg (by
      rintro (h | h | h)
      · exact ht h
      · exact Nat.lt_irrefl _ (Nat.lt_of_lt_of_le h1 h)
      · exact Nat.lt_irrefl _ (Nat.lt_of_lt_of_le (Nat.lt_of_le_of_lt hle h1) h)), hrd]
    rfl

/-- `k` bytes served: what a stage of `readNat` returns and the state it leaves -/
structure Served (rd : Rd) (c : Nat → UInt8) (s : AS) (k : Nat) (r : Bytes) (s' : AS) : Prop where
  bytes : r = slice c s.pos k
  pos : s'.pos = s.pos + k
  inv : s'.Inv rd
  size : s'.size = s.size
  align : s'.align = s.align

theorem Served.nop {s : AS} (hi : s.Inv rd) : Served rd c s 0 [] s := ⟨rfl, rfl, hi, rfl, rfl⟩

theorem Served.trans {s s1 s2 : AS} {k1 k2 : Nat} {r1 r2 : Bytes} (h1 : Served rd c s k1 r1 s1)
    (h2 : Served rd c s1 k2 r2 s2) : Served rd c s (k1 + k2) (r1 ++ r2) s2 :=
  ⟨by rw [h1.bytes, h2.bytes, h1.pos, slice_append], by rw [h2.pos, h1.pos, Nat.add_assoc], h2.inv,
    h2.size.trans h1.size, h2.align.trans h1.align⟩

/-- every stage ends by moving on from a state `t` that differs from `s` in the buffer at most -/
theorem Served.setPos {s t : AS} (ht : t.Inv rd) (hs : t.size = s.size) (ha : t.align = s.align) (k : Nat) :
    Served rd c s k (slice c s.pos k) (t.setPos (s.pos + k)) :=
  ⟨rfl, AS.setPos_pos _ _, AS.setPos_inv _ _ ht, (AS.setPos_size _ _).trans hs, (AS.setPos_align _ _).trans ha⟩

/-- The three stages of `readNat`. The last conjunct is what a stage hands to the next: after `head` either everything is
    served or the position is on a block boundary — `whole` needs that to ask the backend for whole blocks (`exact_ok`
    speaks of aligned offsets only), and passes it on to `tail` together with "less than a block is left". -/
theorem AS.head_spec (s : AS) (n : Nat) (hi : s.Inv rd) (hb : BackendOKAt s.size s.align rd c)
    (hn : 0 < n) (hle : s.pos + n ≤ s.size) :
    ∃ k r s', k ≤ n ∧ s.head rd n = .ok (r, s', n - k) ∧ Served rd c s k r s' ∧
      (n - k = 0 ∨ s'.pos % s.align = 0) := by
  by_cases hne : s.pos = s.posAlign
  · refine ⟨0, [], s, Nat.zero_le _, by rw [AS.head, if_neg fun h => h hne]; rfl, Served.nop hi, Or.inr ?_⟩
    rw [hne]; exact hi.posAlign_mod
  · obtain ⟨b, hf, hrd, hwin⟩ := AS.fillBuf_spec s hi hb (Nat.lt_of_lt_of_le (Nat.lt_add_of_pos_right hn) hle)
    generalize hk : min n (s.align - s.pos % s.align) = k
    obtain ⟨_, h1, h2, h3⟩ := block_step hi.apos (Nat.ne_of_gt hn) hk
    refine ⟨k, _, _, h1, ?_, Served.setPos (s := s) (hi.withBuf hrd) rfl rfl k, ?_⟩
    · rw [AS.head, if_pos hne, hf, ← hwin k (Nat.le_trans (Nat.add_le_add_left h1 _) hle) h2, ← hk, ← hi.bufPos]
      rfl
    · by_cases hr : n - k = 0
      · exact Or.inl hr
      · rw [AS.setPos_pos]; exact Or.inr (h3 hr).2

theorem AS.whole_spec (s : AS) (n : Nat) (hi : s.Inv rd) (hb : BackendOKAt s.size s.align rd c)
    (hle : s.pos + n ≤ s.size) (hal : n = 0 ∨ s.pos % s.align = 0) :
    ∃ k r s', k ≤ n ∧ s.whole rd n = .ok (r, s', n - k) ∧ Served rd c s k r s' ∧ n - k < s.align ∧
      (n - k = 0 ∨ s'.pos % s.align = 0) := by
  have ha := hi.apos
  by_cases hge : n ≥ s.align
  · have hpos : s.pos % s.align = 0 := hal.resolve_left (Nat.ne_of_gt (Nat.lt_of_lt_of_le ha hge))
    have hk : n / s.align * s.align ≤ n := Nat.div_mul_le_self _ _
    have hex := hb.exact_ok s.pos (n / s.align * s.align) hpos (Nat.mul_mod_left _ _)
      (Nat.le_trans (Nat.add_le_add_left hk _) hle)
    refine ⟨_, _, _, hk, ?_, Served.setPos hi rfl rfl _, ?_, Or.inr ?_⟩
    · rw [AS.whole, if_pos hge, ← Nat.mod_eq_sub_div_mul]
      simp only [hex]
      rfl
    · rw [← Nat.mod_eq_sub_div_mul]; exact Nat.mod_lt _ ha
    · rw [AS.setPos_pos, Nat.add_mod, hpos, Nat.mul_mod_left]; rfl
  · exact ⟨0, [], s, Nat.zero_le _, by rw [AS.whole, if_neg hge]; rfl, Served.nop hi, Nat.lt_of_not_le hge, hal⟩

theorem AS.tail_spec (s : AS) (n : Nat) (hi : s.Inv rd) (hb : BackendOKAt s.size s.align rd c)
    (hle : s.pos + n ≤ s.size) (hlt : n < s.align) (hal : n = 0 ∨ s.pos % s.align = 0) :
    ∃ r s', s.tail rd n = .ok (r, s') ∧ Served rd c s n r s' := by
  by_cases hpos : n > 0
  · have hp : s.pos % s.align = 0 := hal.resolve_left (Nat.ne_of_gt hpos)
    obtain ⟨b, hf, hrd, hwin⟩ := AS.fillBuf_spec s hi hb (Nat.lt_of_lt_of_le (Nat.lt_add_of_pos_right hpos) hle)
    have hw := hwin n hle (by rw [hp, Nat.zero_add]; exact Nat.le_of_lt hlt)
    rw [hi.bufPos, hp] at hw
    refine ⟨_, _, ?_, Served.setPos (s := s) (hi.withBuf hrd) rfl rfl n⟩
    rw [AS.tail, if_pos hpos, hf, ← hw]
    rfl
  · obtain rfl : n = 0 := Nat.eq_zero_of_not_pos hpos
    exact ⟨[], s, by rw [AS.tail, if_neg hpos], Served.nop hi⟩

theorem AS.readNat_spec (s : AS) (n0 : Nat) (hi : s.Inv rd) (hb : BackendOKAt s.size s.align rd c) :
    ∃ s', s.readNat rd n0 = .ok (slice c s.pos (min n0 (s.size - s.pos)), s') ∧
      s'.pos = s.pos + min n0 (s.size - s.pos) ∧ s'.Inv rd ∧ s'.size = s.size ∧ s'.align = s.align := by
  unfold AS.readNat
  by_cases hz : min n0 (s.size - s.pos) = 0
  · rw [hz]; exact ⟨s, rfl, rfl, hi, rfl, rfl⟩
  · -- head, whole blocks, tail: `k1 + k2 + k3 = n` bytes
    have hle := clamp_add_le hz
    generalize min n0 (s.size - s.pos) = n at hz hle
    obtain ⟨k1, r1, s1, l1, e1, v1, a1⟩ := AS.head_spec (c := c) s n hi hb (Nat.pos_of_ne_zero hz) hle
    have hle1 : s1.pos + (n - k1) ≤ s1.size := by
      rw [v1.pos, v1.size, Nat.add_assoc, Nat.add_sub_cancel' l1]; exact hle
    obtain ⟨k2, r2, s2, l2, e2, v2, lt2, a2⟩ := AS.whole_spec (c := c) s1 (n - k1) v1.inv
      (v1.size ▸ v1.align ▸ hb) hle1 (v1.align ▸ a1)
    have hle2 : s2.pos + (n - k1 - k2) ≤ s2.size := by
      rw [v2.pos, v2.size, Nat.add_assoc, Nat.add_sub_cancel' l2]; exact hle1
    obtain ⟨r3, s3, e3, v3⟩ := AS.tail_spec (c := c) s2 (n - k1 - k2) v2.inv
      (v2.size ▸ v2.align ▸ v1.size ▸ v1.align ▸ hb) hle2 (v2.align ▸ lt2) (v2.align ▸ a2)
    have v := (v1.trans v2).trans v3
    rw [Nat.add_assoc, Nat.add_sub_cancel' l2, Nat.add_sub_cancel' l1] at v
    rw [if_neg hz, e1]
    simp only [bind, Except.bind, e2, e3]
    exact ⟨s3, by rw [v.bytes], v.pos, v.inv, v.size, v.align⟩

theorem AS.read_spec (s : AS) (n : Int) (hi : s.Inv rd) (hb : BackendOKAt s.size s.align rd c) :
    match Spec.readLen ⟨s.size, s.pos⟩ n with
    | none => ∃ e, s.read rd n = .error e
    | some k => ∃ s', s.read rd n = .ok (slice c s.pos k, s') ∧ s'.pos = s.pos + k ∧ s'.Inv rd ∧
        s'.size = s.size ∧ s'.align = s.align := by
  unfold Spec.readLen AS.read
  by_cases h1 : n < -1
  · simp only [h1, if_true]; exact ⟨_, rfl⟩
  · simp only [h1, if_false]
    by_cases h2 : n = -1
    · simp only [h2, if_true]
      obtain ⟨s', e, p, i, z, a⟩ := AS.readNat_spec (c := c) s (s.size - s.pos) hi hb
      simp only [Nat.min_self] at e p
      exact ⟨s', e, p, i, z, a⟩
    · simp only [h2, if_false]
      exact AS.readNat_spec (c := c) s n.toNat hi hb

/-! The operations other than `read`, in terms of `read`, `setPos` and the specification's `seekPos`. -/

/-- `_seek` computes the specification's new position; it refuses exactly when the specification does -/
theorem AS.seekPos_spec (s : AS) (n : Int) (w : Whence) :
    s.seekPos n w = match Spec.seekPos ⟨s.size, s.pos⟩ n w with | some p => .ok p | none => .error .value := by
  cases w with
  | set => by_cases h : n < 0 <;> simp only [AS.seekPos, Spec.seekPos, h, if_true, if_false]
  | cur => rfl
  | end_ => rfl

theorem AS.seek_of_some {s : AS} {n : Int} {w : Whence} {p : Nat} (h : Spec.seekPos ⟨s.size, s.pos⟩ n w = some p) :
    s.seek n w = .ok (p, s.setPos p) := by
  rw [AS.seek, AS.seekPos_spec, h]; rfl

theorem AS.seek_of_none {s : AS} {n : Int} {w : Whence} (h : Spec.seekPos ⟨s.size, s.pos⟩ n w = none) :
    s.seek n w = .error .value := by
  rw [AS.seek, AS.seekPos_spec, h]; rfl

theorem AS.peek_of_ok {s s' : AS} {n : Int} {b : Bytes} (h : s.read rd n = .ok (b, s')) :
    s.peek rd n = .ok (b, s'.setPos s.pos) := by
  rw [AS.peek, h]; rfl

theorem AS.peek_of_error {s : AS} {n : Int} {e : Err} (h : s.read rd n = .error e) : s.peek rd n = .error e := by
  rw [AS.peek, h]; rfl

theorem AS.readoffset_neg {s : AS} {o : Int} (h : o < 0) (n : Int) : s.readoffset rd o n = .error .value := by
  rw [AS.readoffset, AS.seek, AS.seekPos, if_pos h]; rfl

theorem AS.readoffset_nonneg {s : AS} {o : Int} (h : ¬ o < 0) (n : Int) :
    s.readoffset rd o n = (s.setPos o.toNat).read rd n := by
  rw [AS.readoffset, AS.seek, AS.seekPos, if_neg h]; rfl

/-- the conclusion of `step_spec`, once both steps have been computed -/
theorem AS.step_spec_of {s s' : AS} {op : Op} {o : Out} (h1 : s.step rd op = (s', o))
    (h2 : Spec.step c ⟨s.size, s.pos⟩ op = (⟨s'.size, s'.pos⟩, o)) (hi : s'.Inv rd) (hs : s'.size = s.size)
    (ha : s'.align = s.align) :
    Spec.step c ⟨s.size, s.pos⟩ op = (⟨(s.step rd op).1.size, (s.step rd op).1.pos⟩, (s.step rd op).2) ∧
    (s.step rd op).1.Inv rd ∧ (s.step rd op).1.size = s.size ∧ (s.step rd op).1.align = s.align := by
  rw [h1, h2]; exact ⟨rfl, hi, hs, ha⟩

/-- One operation: the specification's step from the abstraction `⟨size, pos⟩` of the state is the abstraction of the
    stream's step, with the same output; the invariant is re-established. Every case computes the two steps — the stream's
    through `read_spec` and the lemmas above, the specification's by its definition — and compares. -/
theorem AS.step_spec (s : AS) (op : Op) (hi : s.Inv rd) (hb : BackendOKAt s.size s.align rd c) :
    Spec.step c ⟨s.size, s.pos⟩ op = (⟨(s.step rd op).1.size, (s.step rd op).1.pos⟩, (s.step rd op).2) ∧
    (s.step rd op).1.Inv rd ∧ (s.step rd op).1.size = s.size ∧ (s.step rd op).1.align = s.align := by
  -- an operation that is refused leaves the state as it is, on both sides
  have refused : ∀ {op}, s.step rd op = (s, .err) → Spec.step c ⟨s.size, s.pos⟩ op = (⟨s.size, s.pos⟩, .err) → _ :=
    fun h1 h2 => AS.step_spec_of (c := c) h1 h2 hi rfl rfl
  cases op with
  | tell => exact AS.step_spec_of rfl rfl hi rfl rfl
  | seek n w =>
    -- the new position is the specification's; `_set_pos` keeps the invariant
    cases hp : Spec.seekPos ⟨s.size, s.pos⟩ n w with
    | none => exact refused (by rw [AS.step, AS.seek_of_none hp]) (by rw [Spec.step, hp])
    | some p =>
      exact AS.step_spec_of (s' := s.setPos p) (by rw [AS.step, AS.seek_of_some hp])
        (by rw [Spec.step, hp, AS.setPos_size, AS.setPos_pos]) (AS.setPos_inv _ _ hi) (AS.setPos_size _ _) (AS.setPos_align _ _)
  | read n =>
    -- `read_spec`: `readLen` bytes of the content from `pos`, the position advanced by as much
    have h := AS.read_spec (c := c) s n hi hb
    cases hk : Spec.readLen ⟨s.size, s.pos⟩ n with
    | none =>
      rw [hk] at h; obtain ⟨e, he⟩ := h
      exact refused (by rw [AS.step, he]) (by rw [Spec.step, hk])
    | some k =>
      rw [hk] at h; obtain ⟨s', he, p, i, z, a⟩ := h
      exact AS.step_spec_of (by rw [AS.step, he]) (by rw [Spec.step, hk, z, p]) i z a
  | peek n =>
    -- a `read`, then back to the old position
    have h := AS.read_spec (c := c) s n hi hb
    cases hk : Spec.readLen ⟨s.size, s.pos⟩ n with
    | none =>
      rw [hk] at h; obtain ⟨e, he⟩ := h
      exact refused (by rw [AS.step, AS.peek_of_error he]) (by rw [Spec.step, hk])
    | some k =>
      rw [hk] at h; obtain ⟨s', he, p, i, z, a⟩ := h
      exact AS.step_spec_of (by rw [AS.step, AS.peek_of_ok he])
        (by rw [Spec.step, hk, AS.setPos_size, AS.setPos_pos, z]) (AS.setPos_inv _ _ i)
        ((AS.setPos_size _ _).trans z) ((AS.setPos_align _ _).trans a)
  | readoffset o n =>
    by_cases ho : o < 0
    · exact refused (by rw [AS.step, AS.readoffset_neg ho]) (by rw [Spec.step, if_pos ho])
    · -- a `seek` to `o`, then a `read` from the state it leaves
      have h := AS.read_spec (c := c) (s.setPos o.toNat) n (AS.setPos_inv _ _ hi)
        ((AS.setPos_size s _).symm ▸ (AS.setPos_align s _).symm ▸ hb)
      rw [AS.setPos_size, AS.setPos_pos] at h
      cases hk : Spec.readLen ⟨s.size, o.toNat⟩ n with
      | none =>
        rw [hk] at h; obtain ⟨e, he⟩ := h
        exact refused (by rw [AS.step, AS.readoffset_nonneg ho, he]) (by rw [Spec.step, if_neg ho]; simp only [hk])
      | some k =>
        rw [hk] at h; obtain ⟨s', he, p, i, z, a⟩ := h
        exact AS.step_spec_of (by rw [AS.step, AS.readoffset_nonneg ho, he])
          (by rw [Spec.step, if_neg ho]; simp only [hk, z, p]) i z (a.trans (AS.setPos_align _ _))

theorem AS.run_cons (s : AS) (op : Op) (ops : List Op) :
    AS.run rd s (op :: ops) = (s.step rd op).2 :: AS.run rd (s.step rd op).1 ops := rfl

theorem Spec.run_cons (t : Spec) (op : Op) (ops : List Op) :
    Spec.run c t (op :: ops) = (t.step c op).2 :: Spec.run c (t.step c op).1 ops := rfl

theorem AS.run_refines_at (ops : List Op) : ∀ (s : AS), s.Inv rd → BackendOKAt s.size s.align rd c →
    AS.run rd s ops = Spec.run c ⟨s.size, s.pos⟩ ops := by
  induction ops with
  | nil => intro s _ _; rfl
  | cons op ops ih =>
    intro s hi hb
    obtain ⟨hstep, hinv, hs, ha⟩ := AS.step_spec (c := c) s op hi hb
    rw [AS.run_cons, Spec.run_cons, hstep, ih _ hinv (hs ▸ ha ▸ hb)]

theorem AS.run_refines (ops : List Op) (s : AS) (hi : s.Inv rd) (hb : BackendOK s.size s.align rd c) :
    AS.run rd s ops = Spec.run c ⟨s.size, s.pos⟩ ops :=
  AS.run_refines_at ops s hi hb.at

/-- What a format's `_read` answers to `(off, len)` at a sector-aligned `off`, on a disk of `size` bytes with content `c`: the
    content from `off` on, at least as far as the request reaches inside the disk (it may go on to the end of a sector or
    cluster), and exactly `len` bytes when the request is in range and made of whole sectors. -/
def Covers (x : Except Err Bytes) (c : Nat → UInt8) (size ss off len : Nat) : Prop :=
  ∃ r, x = .ok (slice c off r) ∧ min len (size - off) ≤ r ∧ (len % ss = 0 → off + len ≤ size → r = len)

theorem Covers.prefix {x : Except Err Bytes} {c : Nat → UInt8} {size ss off len : Nat} (h : Covers x c size ss off len) :
    ∃ b, x = .ok b ∧ b.take (min len (size - off)) = slice c off (min len (size - off)) ∧
      (len % ss = 0 → off + len ≤ size → b = slice c off len) := by
  obtain ⟨r, hr, hle, he⟩ := h
  exact ⟨_, hr, slice_take hle, fun h1 h2 => by rw [he h1 h2]⟩

/-- A byte request at a sector-aligned offset, served as `_read` of VHD and VHDX does: through a reader `rs` of whole
    sectors (`nsec` of them, covering the disk), asked for the sectors the clamped request touches. -/
theorem sector_covers {rs : Nat → Nat → Except Err Bytes} {g : Nat → UInt8} {ss nsec size : Nat} (hss : 0 < ss)
    (hcov : size ≤ nsec * ss)
    (hrs : ∀ s c, c = 0 ∨ s + c ≤ nsec → rs s c = .ok (slice g (s * ss) (c * ss)))
    (off len : Nat) (ho : off % ss = 0) :
    Covers (rs (off / ss) ((min len (size - off) + ss - 1) / ss)) g size ss off len := by
  have hoff : off / ss * ss = off := Nat.div_mul_cancel (Nat.dvd_of_mod_eq_zero ho)
  refine ⟨_, ?_, le_roundUp _ hss, fun hl hle => by rw [clamp_eq hle, roundUp_of_mod hss hl]⟩
  rw [hrs, hoff]
  by_cases hz : min len (size - off) = 0
  · left; rw [hz, Nat.zero_add]; exact Nat.div_eq_of_lt (Nat.sub_lt hss Nat.one_pos)
  · -- (off/ss + C)·ss = off + C·ss < off + L + ss ≤ (nsec + 1)·ss
    right
    have h0 := clamp_add_le hz
    generalize min len (size - off) = L at h0
    have h1 := roundUp_lt L hss
    have h2 : (off / ss + (L + ss - 1) / ss) * ss < (nsec + 1) * ss := by
      rw [Nat.add_mul, hoff, Nat.add_mul, Nat.one_mul]; omega
    exact Nat.le_of_lt_succ (Nat.lt_of_mul_lt_mul_right h2)

theorem backendOK_of_covers {size align ss : Nat} {rd : Rd} {c : Nat → UInt8} (ha : align % ss = 0)
    (h : ∀ off len, off % ss = 0 → Covers (rd off len) c size ss off len) : BackendOK size align rd c := by
  constructor
  · intro off len ho _ _
    obtain ⟨r, hr, hle, _⟩ := h off len (mod_eq_zero_trans ha ho)
    exact ⟨_, hr, slice_take hle⟩
  · intro off len ho hl hle
    obtain ⟨r, hr, _, he⟩ := h off len (mod_eq_zero_trans ha ho)
    rw [hr, he (mod_eq_zero_trans ha hl) hle]

theorem sector_prefix (n off len : Nat) {ss : Nat} (hss : 0 < ss) (ho : off % ss = 0) :
    min len (n * ss - off) ≤ min (n - off / ss) ((len + ss - 1) / ss) * ss := by
  rw [← Nat.div_mul_cancel (Nat.dvd_of_mod_eq_zero ho), Nat.mul_div_cancel _ hss, ← Nat.sub_mul]
  rcases Nat.le_total (n - off / ss) ((len + ss - 1) / ss) with h | h
  · rw [Nat.min_eq_left h]
    exact Nat.min_le_right _ _
  · rw [Nat.min_eq_right h]
    exact Nat.le_trans (Nat.min_le_left _ _) (le_roundUp len hss)

theorem sector_exact (n off len : Nat) {ss : Nat} (hss : 0 < ss) (ho : off % ss = 0) (hl : len % ss = 0)
    (hle : off + len ≤ n * ss) : min (n - off / ss) ((len + ss - 1) / ss) * ss = len := by
  obtain ⟨a, rfl⟩ := Nat.dvd_of_mod_eq_zero ho
  obtain ⟨b, rfl⟩ := Nat.dvd_of_mod_eq_zero hl
  rw [Nat.mul_div_cancel_left _ hss, Nat.add_sub_assoc hss, Nat.mul_add_div hss,
    Nat.div_eq_of_lt (Nat.sub_lt hss Nat.one_pos), Nat.add_zero]
  rw [← Nat.mul_add, Nat.mul_comm] at hle
  have := Nat.le_of_mul_le_mul_right hle hss
  rw [Nat.min_eq_right (Nat.le_sub_of_add_le' this), Nat.mul_comm]

/-- for a reader that works in whole sectors.  Nothing is assumed of requests beyond the disk, which is why this does not
    go through `Covers`. -/
theorem backendOK_of_sectors (n ss : Nat) (rd : Rd) (g : Nat → UInt8) (hss : 0 < ss) (h0 : ∀ off, rd off 0 = .ok [])
    (h : ∀ off len, off % ss = 0 → off < n * ss → 0 < len →
      rd off len = .ok (slice g off (min (n - off / ss) ((len + ss - 1) / ss) * ss)))
    (align : Nat) (ha : align % ss = 0) : BackendOK (n * ss) align rd g := by
  constructor
  · intro off len ho hlt hl
    have ho' := mod_eq_zero_trans ha ho
    exact ⟨_, h off len ho' hlt hl, slice_take (sector_prefix n off len hss ho')⟩
  · intro off len ho hl hle
    by_cases hz : len = 0
    · rw [hz, h0, slice_zero]
    · rw [h off len (mod_eq_zero_trans ha ho)
        (Nat.lt_of_lt_of_le (Nat.lt_add_of_pos_right (Nat.pos_of_ne_zero hz)) hle) (Nat.pos_of_ne_zero hz),
        sector_exact n off len hss (mod_eq_zero_trans ha ho) (mod_eq_zero_trans ha hl) hle]

theorem backendOK_of_clamped (size align : Nat) (rd : Rd) (c : Nat → UInt8)
    (h : ∀ off len, rd off len = .ok (slice c off (min len (size - off)))) :
    BackendOK size align rd c :=
  backendOK_of_covers (Nat.mod_one align) fun off len _ => ⟨_, h off len, Nat.le_refl _, fun _ hle => clamp_eq hle⟩

end Hv
