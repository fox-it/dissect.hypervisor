/- C08 / C07 for QCOW2: the read theorem up to a limit that may lie beyond the disk size (the buffered stream asks for whole
   blocks), `BackendOKAt`; snapshot views; a QCOW2 stream as the backing handle of another image. -/
import Hv.Qcow2Stream
import HvProofs.Qcow2
import HvProofs.Stream
namespace Hv.Qcow2
open Hv Hv.Extracted.qcow2

/-- the fields `_read` consults: file handles, backing handle, `cluster_bits`, the extended-L2 flag, the
    compression type, the cached L1 table and the inflater; everything else blanked -/
def QCow2.core (q : QCow2) : QCow2 :=
  { q with version := 0, size := 0, l1Size := 0, l1Offset := 0, backingName := none, exts := [],
           nbSnapshots := 0, snapshotsOffset := 0 }

theorem core_countLoop (q : QCow2) (l2o l2i sc : Nat) :
    ∀ k i st, q.core.countLoop l2o l2i sc k i st = q.countLoop l2o l2i sc k i st := by
  intro k
  induction k with
  | zero => intro i st; rfl
  | succ k ih =>
    intro i st
    unfold QCow2.countLoop
    simp only [ih]
    rfl

theorem core_step (q : QCow2) (off len : Nat) : q.core.step off len = q.step off len := by
  unfold QCow2.step
  simp only [core_countLoop]
  rfl

theorem core_yieldRuns (q : QCow2) : ∀ fuel off len, q.core.yieldRuns fuel off len = q.yieldRuns fuel off len := by
  intro fuel
  induction fuel with
  | zero => intro off len; rfl
  | succ fuel ih =>
    intro off len
    rw [yieldRuns_succ, yieldRuns_succ, core_step]
    simp only [ih]

theorem core_runData (q : QCow2) (r : Run) : q.core.runData r = q.runData r := rfl

theorem core_execRuns (q : QCow2) : ∀ runs, q.core.execRuns runs = q.execRuns runs := by
  intro runs
  induction runs with
  | nil => rfl
  | cons r rest ih => simp only [QCow2.execRuns, ih, core_runData]

theorem core_read (q : QCow2) (off len : Nat) : q.core.read off len = q.read off len := by
  unfold QCow2.read
  simp only [core_yieldRuns, core_execRuns]

/-- in particular `_read` does not depend on `size`, `version`, `header.l1_size`, `header.l1_table_offset` -/
theorem read_frame (q q' : QCow2) (h : q'.core = q.core) (off len : Nat) : q'.read off len = q.read off len := by
  rw [← core_read q', ← core_read q, h]

theorem withSize_read (q : QCow2) (n off len : Nat) : (q.withSize n).read off len = q.read off len :=
  read_frame q (q.withSize n) rfl off len

theorem withSize_guest (q : QCow2) (n : Nat) (b : File) (o : Nat) : (q.withSize n).guest b o = q.guest b o := rfl

theorem withSize_self (q : QCow2) : q.withSize q.size = q := by cases q; rfl

theorem conformantTo_self (q : QCow2) : ConformantTo q q.size ↔ Conformant q := by
  unfold ConformantTo; rw [withSize_self]

theorem conformantToB_sound (q : QCow2) (lim : Nat) (h : q.conformantToB lim = true) : ConformantTo q lim :=
  conformantb_sound _ h

theorem bytesIn_mono (q : QCow2) (c lim lim' : Nat) (h : lim ≤ lim') :
    (q.withSize lim).bytesIn c ≤ (q.withSize lim').bytesIn c := by
  show min ((c + 1) * q.clusterSize) lim - c * q.clusterSize ≤ min ((c + 1) * q.clusterSize) lim' - c * q.clusterSize
  omega

theorem entryOK_mono (q : QCow2) (c lim lim' : Nat) (h : lim ≤ lim') (hok : EntryOK (q.withSize lim') c) :
    EntryOK (q.withSize lim) c :=
  ⟨hok.l2_in, hok.comp, hok.off0,
   fun a b c' d => Nat.le_trans (Nat.add_le_add_left (bytesIn_mono q c lim lim' h) _) (hok.std_in a b c' d),
   hok.ext_disj, hok.ext_unalloc,
   fun a b c' => Nat.le_trans (Nat.add_le_add_left (bytesIn_mono q c lim lim' h) _) (hok.ext_in a b c')⟩

theorem conformantTo_iff (q : QCow2) (lim : Nat) :
    ConformantTo q lim ↔
      HdrOK q ∧ q.l1 = .ok q.l1Table ∧
      ∀ c, c * q.clusterSize < lim → c / q.l2n < q.l1Size → q.l2Off c ≠ 0 → EntryOK (q.withSize lim) c := by
  have hn := fun c => lt_nClusters_iff (q.withSize lim) c
  constructor
  · intro hc
    -- `HdrOK (q.withSize lim)` and `HdrOK q` have the same fields but are different types: re-assembled
    exact ⟨⟨hc.hdr.cb_lo, hc.hdr.cb_hi, hc.hdr.sub_lo⟩, hc.l1ok, fun c h0 h1 h2 => hc.entries c ((hn c).mpr h0) h1 h2⟩
  · intro ⟨h1, h2, h3⟩
    exact ⟨⟨h1.cb_lo, h1.cb_hi, h1.sub_lo⟩, h2, fun c h0 h4 h5 => h3 c ((hn c).mp h0) h4 h5⟩

theorem ConformantTo.mono {q : QCow2} {lim lim' : Nat} (hc : ConformantTo q lim') (h : lim ≤ lim') :
    ConformantTo q lim :=
  let ⟨h1, h2, h3⟩ := (conformantTo_iff q lim').mp hc
  (conformantTo_iff q lim).mpr
    ⟨h1, h2, fun c h0 h4 h5 => entryOK_mono q c lim lim' h (h3 c (Nat.lt_of_lt_of_le h0 h) h4 h5)⟩

theorem roundUp_mod (n a : Nat) : roundUp n a % a = 0 := Nat.mul_mod_left _ _

theorem block_le_roundUp (n a off : Nat) (ha : 0 < a) (hal : off % a = 0) (hlt : off < n) : off + a ≤ roundUp n a := by
  unfold roundUp
  have h1 := Nat.div_add_mod off a
  rw [hal, Nat.add_zero] at h1
  have hq : off / a + 1 ≤ (n + a - 1) / a := by
    apply (Nat.le_div_iff_mul_le ha).mpr
    rw [Nat.add_mul, Nat.one_mul, Nat.mul_comm]; omega
  have := Nat.mul_le_mul_right a hq
  rw [Nat.add_mul, Nat.one_mul, Nat.mul_comm (off / a) a] at this
  omega

theorem ConformantTo.conformant {q : QCow2} {align : Nat} (ha : 0 < align)
    (hc : ConformantTo q (roundUp q.size align)) : Conformant q :=
  (conformantTo_self q).mp (hc.mono (Hv.le_roundUp _ ha))

/-- `lim` may exceed the disk size: the last block the buffered stream asks for does (`backendOKAt`) -/
theorem read_correct_to (q : QCow2) (lim : Nat) (hc : ConformantTo q lim) (b : File) (hb : BackingIs q.backing b)
    (off len : Nat) (h : off + len ≤ lim) : q.read off len = .ok (slice (q.guest b) off len) := by
  have := read_correct (q.withSize lim) hc b hb off len h
  rw [withSize_read] at this
  exact this

theorem backendOKAt (q : QCow2) (align : Nat) (ha : 0 < align) (hc : ConformantTo q (roundUp q.size align)) (b : File)
    (hb : BackingIs q.backing b) : BackendOKAt q.size align q.read (q.guest b) := by
  constructor
  · intro off hal hlt _
    refine ⟨_, read_correct_to q _ hc b hb off align (block_le_roundUp _ _ _ ha hal hlt), ?_⟩
    exact slice_take (Nat.min_le_left _ _)
  · intro off len _ _ hle
    exact read_correct_to q _ hc b hb off len (Nat.le_trans hle (Hv.le_roundUp _ ha))

theorem stream_correct (q : QCow2) (align : Nat) (ha : 0 < align) (hc : ConformantTo q (roundUp q.size align))
    (b : File) (hb : BackingIs q.backing b) (ops : List Op) :
    AS.run q.read (AS.init q.size align) ops = Spec.run (q.guest b) ⟨q.size, 0⟩ ops :=
  AS.run_refines_at ops _ (AS.init_inv _ _ ha) (backendOKAt q align ha hc b hb)

theorem snapOpen_read (q : QCow2) (s : Snap) : (q.snapOpen s).read = (q.snapImage s).read := by
  funext off len
  exact read_frame (q.snapImage s) (q.snapOpen s) rfl off len

end Hv.Qcow2

namespace Hv
/-- `copy.copy; _buf = None; seek(0)` leaves exactly the state of a freshly constructed stream, whatever the
    state of the active image's stream was -/
theorem AS.reopen_eq (s : AS) : s.reopen = AS.init s.size s.align := by
  unfold AS.reopen AS.setPos AS.init
  simp only [Nat.zero_mod, Nat.sub_zero]
  by_cases h : s.posAlign = 0
  · simp [h]
  · simp [h]
variable {rd : Nat → Nat → Except Err Bytes}

theorem AS.after_frame (ops : List Op) : ∀ s : AS, (AS.after rd s ops).shape = s.shape := by
  induction ops with
  | nil => intro s; rfl
  | cons op ops ih => intro s; rw [AS.after, ih, AS.step_frame]
end Hv

namespace Hv.Qcow2
open Hv Hv.Layers

theorem snapshot_stream (q : QCow2) (s : Snap) (align : Nat) (ha : 0 < align)
    (hc : ConformantTo (q.snapImage s) (roundUp q.size align)) (b : File) (hb : BackingIs q.backing b)
    (st : AS) (hsz : st.size = q.size) (hal : st.align = align) (ops : List Op) :
    AS.run (q.snapOpen s).read st.reopen ops = Spec.run ((q.snapImage s).guest b) ⟨q.size, 0⟩ ops := by
  rw [AS.reopen_eq, hsz, hal, snapOpen_read]
  exact stream_correct (q.snapImage s) align ha hc b hb ops

/-- no hypothesis on the active image's own L1 table: nothing of its stream state survives `open()` -/
theorem snapshot_after_history (q : QCow2) (s : Snap) (align : Nat) (ha : 0 < align)
    (hc : ConformantTo (q.snapImage s) (roundUp q.size align)) (b : File) (hb : BackingIs q.backing b)
    (earlier ops : List Op) :
    AS.run (q.snapOpen s).read (AS.after q.read (AS.init q.size align) earlier).reopen ops
      = Spec.run ((q.snapImage s).guest b) ⟨q.size, 0⟩ ops := by
  have h := AS.after_frame (rd := q.read) earlier (AS.init q.size align)
  exact snapshot_stream q s align ha hc b hb _ (congrArg Prod.fst h) (congrArg Prod.snd h) ops

theorem readLen_nat (size pos n : Nat) : Spec.readLen ⟨size, pos⟩ (n : Int) = some (min n (size - pos)) := by
  unfold Spec.readLen
  have h1 : ¬ ((n : Int) < -1) := by omega
  have h2 : ¬ ((n : Int) = -1) := by omega
  rw [if_neg h1, if_neg h2, Int.toNat_natCast]

theorem asReader_backingIs (lo : QCow2) (align : Nat) (ha : 0 < align) (hc : ConformantTo lo (roundUp lo.size align))
    (bl : File) (hbl : BackingIs lo.backing bl) : BackingIs (some (lo.asReader align)) (lo.asFile bl) := by
  intro off len
  show lo.asReader align off len = _
  unfold QCow2.asReader
  have h0 : ¬ ((off : Int) < 0) := by omega
  simp only [AS.seek, AS.seekPos, h0, if_false, bind, Except.bind, Int.toNat_natCast]
  have hi : ((AS.init lo.size align).setPos off).Inv lo.read := AS.setPos_inv _ _ (AS.init_inv _ _ ha)
  have hb : BackendOKAt ((AS.init lo.size align).setPos off).size ((AS.init lo.size align).setPos off).align lo.read (lo.guest bl) := by
    simpa [AS.init] using backendOKAt lo align ha hc bl hbl
  have := AS.read_spec (c := lo.guest bl) ((AS.init lo.size align).setPos off) (len : Int) hi hb
  simp only [AS.setPos_size, AS.setPos_pos] at this
  have hsz : (AS.init lo.size align).size = lo.size := rfl
  rw [hsz, readLen_nat] at this
  obtain ⟨s', hr, _⟩ := this
  rw [hr]
  rfl

theorem chain_read_correct (hi lo : QCow2) (align : Nat) (ha : 0 < align) (hbk : hi.backing = some (lo.asReader align))
    (lim : Nat) (hchi : ConformantTo hi lim) (hclo : ConformantTo lo (roundUp lo.size align))
    (bl : File) (hbl : BackingIs lo.backing bl) (off len : Nat) (h : off + len ≤ lim) :
    hi.read off len = .ok (slice (hi.guest (lo.asFile bl)) off len) :=
  read_correct_to hi lim hchi (lo.asFile bl) (by rw [hbk]; exact asReader_backingIs lo align ha hclo bl hbl) off len h

theorem guest_eq_over (q : QCow2) (b : File) : q.guest b = q.layer.over (padTo b.byte b.size) := by
  funext o
  unfold QCow2.guest QCow2.layer QCow2.decides Layer.over padTo QCow2.guest
  simp only [Nat.not_lt_zero, if_false]
  by_cases h1 : q.l1Size ≤ o / q.clusterSize / q.l2n
  · simp only [h1, if_true, Bool.false_eq_true, if_false]
  · simp only [h1, if_false]
    by_cases h2 : q.l2Off (o / q.clusterSize) = 0
    · simp only [h2, if_true, Bool.false_eq_true, if_false]
    · simp only [h2, if_false]
      by_cases h62 : (q.entryAt (o / q.clusterSize)).testBit 62 = true
      · simp only [h62, if_true]
      · simp only [h62, if_false, Bool.false_eq_true]
        cases hs : q.sub with
        | true =>
          simp only [if_true]
          cases hz : (q.bitmapAt (o / q.clusterSize)).testBit (32 + o % q.clusterSize / (q.clusterSize / 32)) <;>
            cases hal : (q.bitmapAt (o / q.clusterSize)).testBit (o % q.clusterSize / (q.clusterSize / 32)) <;> simp
        | false =>
          simp only [Bool.false_eq_true, if_false]
          cases hz : (q.entryAt (o / q.clusterSize)).testBit 0 <;>
            cases h63 : (q.entryAt (o / q.clusterSize)).testBit 63 <;>
            by_cases ho : hostOff (q.entryAt (o / q.clusterSize)) = 0 <;> simp [ho]

/-! ### concrete objects for the non-vacuity examples of C07 / C08

    512-byte clusters; active L1 at 512 (→ L2 at 1024: cluster 0 normal at 1536, cluster 1 zero, 2 and 3 unallocated);
    a snapshot whose L1 table is the 8 zero bytes at offset 0 (everything unallocated); disk size 1500. -/

def exFile : File := ⟨2048, fun o =>
  if o = 518 then 4 else if o = 1030 then 6 else if o = 1039 then 1
  else if 1536 ≤ o then UInt8.ofNat (o % 251) else 0⟩

def exImg : QCow2 :=
  { fh := exFile, dataFile := exFile, hasDataFile := false, backing := none, version := 3, clusterBits := 9,
    size := 1500, l1Size := 1, l1Offset := 512, sub := false, compressionType := 0, l1 := .ok #[1024],
    inflate := fun _ _ => .error .other, backingName := none, exts := [], nbSnapshots := 1, snapshotsOffset := 0 }

def exSnap : Snap := ⟨0, 1, [], [], 0, 40⟩

/-- an overlay with nothing allocated (its L1 table is the zero word at offset 0) over a stream on `exImg` -/
def exTop : QCow2 :=
  { exImg with l1Offset := 0, l1 := .ok #[0], size := 1400, backing := some (exImg.asReader 1024) }

end Hv.Qcow2

