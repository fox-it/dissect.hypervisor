/- Hyper-V VMCX/VMRS (C17): values, entries and key tables read back from their stored bytes; the registry of key tables;
   `load` never runs out of fuel (`Halts`). -/
import Hv.HyperV
import Hv.HyperVEnc
import HvProofs.Basic
import HvProofs.Outcome
import HvProofs.Lists
namespace Hv.HyperV
open Hv Hv.Extracted.hyperv

theorem tFree_eq : tFree = 1 := by decide
theorem tNode_eq : tNode = 9 := by decide
-- the extracted `KeyDataType` members, `struct` formats and slice bounds of `.value`
theorem typ_eqs : tInt = 3 ∧ tUInt = 4 ∧ tDouble = 5 ∧ tString = 6 ∧ tArray = 7 ∧ tBool = 8 := by decide
theorem fmt_eqs : fmtInt = some (true, 8) ∧ fmtUInt = some (false, 8) ∧ fmtDouble = some (false, 8) ∧ fmtLen = some (false, 4) ∧
    fmtBool = some (false, 4) := by decide
theorem cut_eqs : nInt = 8 ∧ nUInt = 8 ∧ nDouble = 8 ∧ nLen = 4 ∧ nSkip = 4 ∧ nSkip' = 4 ∧ nBool = 4 := by decide
theorem EH_eq : EH = 21 := by decide
theorem KTH_eq : KTH = 10 := by decide

/-! ### `Halts`: the fuel did not run out

The Hyper-V files prove what the reader computes *under the hypothesis that its fuel lasts* (`Halts (…)` at the same fuel) and
discharge the fuel separately (`…_halts`): the fuel bounds hold for any file, the results for written ones.
After `load` the model writes `match x with | .error e => .error e | .ok a => k a`, not `x >>= k`; a lemma stated for that
`match` does not apply to the model's own matchers, so such steps go `split`, then `Halts.of_error` for the first branch. -/

/-- the computation returned or raised; the model's fuel did not run out -/
def Halts {α : Type} (r : Except Err α) : Prop := r ≠ .error .nonTermination

section
variable {α β : Type}

@[simp] theorem halts_ok (a : α) : Halts (.ok a : Except Err α) := by simp [Halts]

@[simp] theorem halts_error (x : Err) : Halts (.error x : Except Err α) ↔ x ≠ .nonTermination := by simp [Halts]

theorem Halts.of_error {r : Except Err α} (h : Halts r) {x : Err} (e : r = .error x) : Halts (.error x : Except Err β) := by
  subst e; exact fun hc => h (by cases hc; rfl)

@[simp] theorem halts_bind {x : Except Err α} {f : α → Except Err β} :
    Halts (x >>= f) ↔ Halts x ∧ ∀ a, x = .ok a → Halts (f a) := by
  cases x <;> simp [Halts, bind, Except.bind]

@[simp] theorem halts_map {x : Except Err α} {g : α → β} : Halts (x.map g) ↔ Halts x := by
  cases x <;> simp [Halts, Except.map]

@[simp] theorem halts_ite {c : Prop} [Decidable c] {a b : Except Err α} :
    Halts (if c then a else b) ↔ (c → Halts a) ∧ (¬ c → Halts b) := by
  split <;> simp [*]

end

theorem field_halts (f : File) (base ssize : Nat) (fld : Field) : Halts (f.field base ssize fld) := by
  unfold File.field; split <;> simp

theorem take_leBytes_append (n v : Nat) (r : Bytes) : (leBytes n v ++ r).take n = leBytes n v := by
  rw [List.take_left' (leBytes_length n v)]

theorem drop_leBytes_append (n v : Nat) (r : Bytes) : (leBytes n v ++ r).drop n = r := by
  rw [List.drop_left' (leBytes_length n v)]

theorem unpack_leBytes (s : Bool) (w v : Nat) (r : Bytes) :
    unpack (some (s, w)) w (leBytes w v ++ r) = .ok (if s then toSigned (8 * w) (v % 256 ^ w) else ((v % 256 ^ w : Nat) : Int)) := by
  simp only [unpack, take_leBytes_append, leBytes_length, ne_eq, not_true_eq_false, if_false, leNat_leBytes]
  split <;> rfl

theorem unpack_unsigned (w v : Nat) (r : Bytes) (h : v < 256 ^ w) :
    unpack (some (false, w)) w (leBytes w v ++ r) = .ok (v : Int) := by
  rw [unpack_leBytes, Nat.mod_eq_of_lt h]; rfl

theorem unitsBytes_cons (u : Nat) (us : List Nat) : unitsBytes (u :: us) = leBytes 2 u ++ unitsBytes us := by
  simp [unitsBytes]

@[simp] theorem unitsBytes_length (us : List Nat) : (unitsBytes us).length = 2 * us.length := by
  induction us with
  | nil => rfl
  | cons u us ih => rw [unitsBytes_cons, List.length_append, leBytes_length, ih, List.length_cons]; omega

theorem unitsOf_unitsBytes (us : List Nat) (h : ∀ u ∈ us, u < 2 ^ 16) : unitsOf (unitsBytes us) = some us := by
  induction us with
  | nil => rfl
  | cons u us ih =>
    have hu : u < 2 ^ 16 := h u (by simp)
    have ih' := ih (fun x hx => h x (by simp [hx]))
    rw [unitsBytes_cons]
    simp only [leBytes, List.cons_append, List.nil_append, unitsOf, ih', Option.map_some]
    have e : (UInt8.ofNat (u % 256)).toNat + 256 * (UInt8.ofNat (u / 256 % 256)).toNat = u := by
      simp [UInt8.toNat_ofNat']; omega
    rw [e]

theorem decodeUtf16_unitsBytes (us : List Nat) (h : ∀ u ∈ us, u < 2 ^ 16) (hv : validUnits us = true) :
    decodeUtf16 (unitsBytes us) = .ok us := by
  simp [decodeUtf16, unitsOf_unitsBytes us h, hv]

theorem decodeValue_int (fo : Bool) (d : Bytes) : decodeValue tInt fo d = (unpack (some (true, 8)) 8 d).map .int := by
  simp [decodeValue, typ_eqs, fmt_eqs, cut_eqs]

theorem decodeValue_uint (fo : Bool) (d : Bytes) :
    decodeValue tUInt fo d = (unpack (some (false, 8)) 8 d).map (fun v => .uint v.toNat) := by
  simp [decodeValue, typ_eqs, fmt_eqs, cut_eqs]

theorem decodeValue_double (fo : Bool) (d : Bytes) :
    decodeValue tDouble fo d = (unpack (some (false, 8)) 8 d).map (fun v => .double v.toNat) := by
  simp [decodeValue, typ_eqs, fmt_eqs, cut_eqs]

/-- the bytes of an inline string or array: a 32-bit length, then that many bytes -/
def inlineBody (d : Bytes) : Except Err Bytes := (unpack (some (false, 4)) 4 d).map (fun n => (d.drop 4).take n.toNat)

theorem decodeValue_str (d : Bytes) : decodeValue tString false d = inlineBody d >>= fun b => (decodeUtf16 b).map .str := by
  simp [decodeValue, inlineBody, typ_eqs, fmt_eqs, cut_eqs]

theorem decodeValue_bytes (d : Bytes) : decodeValue tArray false d = inlineBody d >>= fun b => .ok (.bytes b) := by
  simp [decodeValue, inlineBody, typ_eqs, fmt_eqs, cut_eqs]

theorem decodeValue_str_fo (d : Bytes) : decodeValue tString true d = (decodeUtf16 d).map .str := by
  simp [decodeValue, typ_eqs, bind, Except.bind]

theorem decodeValue_bool (fo : Bool) (d : Bytes) :
    decodeValue tBool fo d = (unpack (some (false, 4)) 4 d).map (fun v => .bool (v ≠ 0)) := by
  simp [decodeValue, typ_eqs, fmt_eqs, cut_eqs]

theorem inlineBody_encode (b slack : Bytes) (h : b.length < 2 ^ 32) : inlineBody (leBytes 4 b.length ++ (b ++ slack)) = .ok b := by
  rw [inlineBody, unpack_unsigned 4 _ _ (by simpa using h), drop_leBytes_append]
  simp [Except.map]

theorem decodeValue_encodeValue (v : Value) (hv : v.inRange) (slack : Bytes) :
    decodeValue v.typ false (encodeValue v ++ slack) = .ok v := by
  cases v with
  | int v =>
    have e : toSigned (8 * 8) ((v % (2 ^ 64 : Nat)).toNat % 256 ^ 8) = v := by
      have := hv.1; have := hv.2; unfold toSigned; split <;> omega
    rw [Value.typ, decodeValue_int, encodeValue, unpack_leBytes, if_pos rfl, e]; rfl
  | uint v => rw [Value.typ, decodeValue_uint, encodeValue, unpack_unsigned 8 v slack (by simpa [Value.inRange] using hv)]; rfl
  | double b => rw [Value.typ, decodeValue_double, encodeValue, unpack_unsigned 8 b slack (by simpa [Value.inRange] using hv)]; rfl
  | str us =>
    have hl : (unitsBytes us).length < 2 ^ 32 := by simpa using hv.2.2
    rw [Value.typ, decodeValue_str, encodeValue, ← unitsBytes_length, List.append_assoc, inlineBody_encode _ _ hl]
    simp [bind, Except.bind, decodeUtf16_unitsBytes us hv.1 hv.2.1, Except.map]
  | bytes b => rw [Value.typ, decodeValue_bytes, encodeValue, List.append_assoc, inlineBody_encode _ _ hv]; rfl
  | bool b =>
    rw [Value.typ, decodeValue_bool, encodeValue, unpack_unsigned 4 _ slack (by split <;> decide)]
    cases b <;> rfl

theorem decodeValue_bool_word (fo : Bool) (p : Bytes) (h4 : (p.take 4).length = 4) :
    decodeValue tBool fo p = .ok (.bool (decide (leNat (p.take 4) ≠ 0))) := by
  rw [decodeValue_bool]
  simp [unpack, h4, Except.map]

theorem decodeValue_fo_unitsBytes (us : List Nat) (h : ∀ u ∈ us, u < 2 ^ 16) (hv : validUnits us = true) :
    decodeValue tString true (unitsBytes us) = .ok (.str us) := by
  rw [decodeValue_str_fo, decodeUtf16_unitsBytes us h hv]; rfl

theorem decodeValue_bytes_fo (b : Bytes) : decodeValue tArray true b = .ok (.bytes b) := by
  simp [decodeValue, typ_eqs, bind, Except.bind]

/- `bfield` is the model's second field reader: key tables and object-table entries are parsed from a buffer already read,
   not from the file (`File.field`, whose lemmas `field_le` / `slice_split` are in Basic); both decode through `decode_le`. -/
theorem bfield_here (w v : Nat) (rest : Bytes) (bits : Nat) (hv : v < 256 ^ w) (hb : 2 ^ bits = 256 ^ w) :
    bfield (leBytes w v ++ rest) ⟨0, w, false, 0, bits⟩ = v := by
  rw [bfield, List.drop_zero, take_leBytes_append]
  exact decode_le 0 w bits v hb hv

theorem bfield_last (w v bits : Nat) (hv : v < 256 ^ w) (hb : 2 ^ bits = 256 ^ w) : bfield (leBytes w v) ⟨0, w, false, 0, bits⟩ = v := by
  simpa using bfield_here w v [] bits hv hb

theorem bfield_skip (w v : Nat) (rest : Bytes) (off n : Nat) (bg : Bool) (sh b : Nat) (h : w ≤ off) :
    bfield (leBytes w v ++ rest) ⟨off, n, bg, sh, b⟩ = bfield rest ⟨off - w, n, bg, sh, b⟩ := by
  simp only [bfield]
  rw [show off = w + (off - w) by omega, ← List.drop_drop, drop_leBytes_append, Nat.add_sub_cancel_left]
  rfl

/-- the 21 header bytes of a stored entry -/
def SEntry.header (s : SEntry) : Bytes :=
  leBytes 2 s.typ ++ (leBytes 4 s.size ++ (leBytes 2 s.pidx ++ (leBytes 4 s.poff ++ (leBytes 4 s.ck ++ (leBytes 4 s.ins ++ leBytes 1 s.doff)))))

theorem SEntry.encode_eq (s : SEntry) : s.encode = s.header ++ s.body := by
  simp [SEntry.encode, SEntry.header, List.append_assoc]

theorem SEntry.header_length (s : SEntry) : s.header.length = EH := by
  simp [SEntry.header, EH_eq]

theorem SEntry.encode_length (s : SEntry) : s.encode.length = s.size := by
  rw [SEntry.encode_eq, List.length_append, SEntry.header_length]; rfl

theorem SEntry.header_fields (s : SEntry) (hs : s.ok) :
    bfield s.header HyperVStorageKeyTableEntryHeader.type = s.typ ∧
    bfield s.header HyperVStorageKeyTableEntryHeader.size_field = s.size ∧
    bfield s.header HyperVStorageKeyTableEntryHeader.parent_table_idx = s.pidx ∧
    bfield s.header HyperVStorageKeyTableEntryHeader.parent_offset = s.poff ∧
    bfield s.header HyperVStorageKeyTableEntryHeader.data_offset = s.doff := by
  obtain ⟨h1, h2, h3, h4, h5⟩ := hs
  simp [SEntry.header, HyperVStorageKeyTableEntryHeader.type, HyperVStorageKeyTableEntryHeader.size_field,
    HyperVStorageKeyTableEntryHeader.parent_table_idx, HyperVStorageKeyTableEntryHeader.parent_offset,
    HyperVStorageKeyTableEntryHeader.data_offset, bfield_skip, bfield_here, bfield_last, *]

theorem parseEntry_encode (s : SEntry) (hs : s.ok) (tail : Bytes) (off : Nat) :
    parseEntry (s.encode ++ tail) off = .ok (s.parsed off) := by
  obtain ⟨f1, f2, f3, f4, f5⟩ := s.header_fields hs
  have ht : (s.encode ++ tail).take EH = s.header := by
    rw [SEntry.encode_eq, List.append_assoc, List.take_left' s.header_length]
  have hd : (s.encode ++ tail).drop EH = s.body ++ tail := by
    rw [SEntry.encode_eq, List.append_assoc, List.drop_left' s.header_length]
  have hb : (s.body ++ tail).take (s.size - EH) = s.body := by
    rw [show s.size - EH = s.body.length by simp [SEntry.size], List.take_left' rfl]
  simp only [parseEntry, ht, hd, s.header_length, Nat.lt_irrefl, if_false, f1, f2, f3, f4, f5, hb, SEntry.parsed]

theorem SEntry.size_pos (s : SEntry) : 0 < s.size := by simp only [SEntry.size, EH_eq]; omega

theorem encodeEntries_cons (s : SEntry) (r : List SEntry) : encodeEntries (s :: r) = s.encode ++ encodeEntries r := by
  simp [encodeEntries]

theorem totalSize_cons (s : SEntry) (r : List SEntry) : totalSize (s :: r) = s.size + totalSize r := by
  simp [totalSize]

theorem length_le_totalSize (ss : List SEntry) : ss.length ≤ totalSize ss := by
  induction ss with
  | nil => simp [totalSize]
  | cons a l ih => rw [totalSize_cons, List.length_cons]; have := a.size_pos; omega

theorem walkEntries_step (s : SEntry) (hs : s.ok) (rest : Bytes) (fuel off size : Nat) (h : off < size) :
    walkEntries (fuel + 1) (s.encode ++ rest) off size = (walkEntries fuel rest (off + s.size) size).map (s.parsed off :: ·) := by
  have hd : (s.encode ++ rest).drop s.size = rest := List.drop_left' s.encode_length
  have hz : s.size ≠ 0 := Nat.pos_iff_ne_zero.mp s.size_pos
  simp only [walkEntries, h, not_true_eq_false, if_false, parseEntry_encode s hs rest off, SEntry.parsed, hz, hd]
  cases walkEntries fuel rest (off + s.size) size <;> rfl

theorem walkEntries_end (fuel : Nat) (rest : Bytes) (off size : Nat) (h : ¬ off < size) : walkEntries fuel rest off size = .ok [] := by
  cases fuel <;> simp [walkEntries, h]

theorem walkEntries_zero (fuel : Nat) (tail : Bytes) (off size : Nat) (hf : fuel ≠ 0) :
    walkEntries fuel (zeros EH ++ tail) off size = .ok [] := by
  obtain ⟨fuel, rfl⟩ := Nat.exists_eq_succ_of_ne_zero hf
  have ht : (zeros EH ++ tail).take EH = zeros EH := List.take_left' (by simp)
  have hz : bfield (zeros EH) HyperVStorageKeyTableEntryHeader.size_field = 0 := by decide
  by_cases h : off < size <;> simp [walkEntries, h, parseEntry, ht, hz]

/-- stored entries (free ones included) that fit into the declared size: every entry at its offset, then whatever the loop
    makes of the bytes after them -/
theorem walkEntries_prefix (ss : List SEntry) (hs : ∀ s ∈ ss, s.ok) (tail : Bytes) (size fuel : Nat) :
    ∀ off, off + totalSize ss ≤ size →
      walkEntries (ss.length + fuel) (encodeEntries ss ++ tail) off size =
        (walkEntries fuel tail (off + totalSize ss) size).map (parsedFrom ss off ++ ·) := by
  induction ss with
  | nil =>
    intro off _
    cases h : walkEntries fuel tail off size <;> simp [encodeEntries, totalSize, parsedFrom, h, Except.map]
  | cons s r ih =>
    intro off hsz
    rw [totalSize_cons] at hsz
    have hlt : off < size := by have := s.size_pos; omega
    rw [List.length_cons, Nat.add_right_comm, encodeEntries_cons, List.append_assoc, walkEntries_step s (hs s (by simp)) _ _ off _ hlt,
      ih (fun x hx => hs x (by simp [hx])) (off + s.size) (by omega), totalSize_cons, Nat.add_assoc]
    cases walkEntries fuel tail (off + (s.size + totalSize r)) size <;> rfl

theorem parseKeyTable_encodeTable (index seq ck : Nat) (body : Bytes) (size : Nat) (hi : index < 2 ^ 16) (hq : seq < 2 ^ 16) :
    parseKeyTable (leBytes 2 SIGNATURE_KEY_TABLE_HEADER ++ (leBytes 2 index ++ (leBytes 2 seq ++ (leBytes 4 ck ++ body)))) size =
      (walkEntries size body KTH size).map fun es => { index, seq, entries := es } := by
  have hd : (leBytes 2 SIGNATURE_KEY_TABLE_HEADER ++ (leBytes 2 index ++ (leBytes 2 seq ++ (leBytes 4 ck ++ body)))).drop KTH = body := by
    simp only [← List.append_assoc]; exact List.drop_left' (by simp [KTH_eq])
  have hsig : SIGNATURE_KEY_TABLE_HEADER < 256 ^ 2 := by decide
  have hlen : ¬ (leBytes 2 SIGNATURE_KEY_TABLE_HEADER ++ (leBytes 2 index ++ (leBytes 2 seq ++ (leBytes 4 ck ++ body)))).length < KTH := by
    simp [KTH_eq]; omega
  simp only [parseKeyTable, hd, hlen, if_false]
  simp only [HyperVStorageKeyTable.signature, HyperVStorageKeyTable.index, HyperVStorageKeyTable.sequence_number, bfield_skip,
    bfield_here, hsig, hi, hq, Nat.reducePow, Nat.reduceSub, Nat.reduceLeDiff, ne_eq, not_true_eq_false, if_false]
  cases walkEntries size body KTH size <;> rfl

theorem parseKeyTable_stored (index seq ck : Nat) (ss : List SEntry) (tail : Bytes) (size : Nat) (hi : index < 2 ^ 16) (hq : seq < 2 ^ 16)
    (hs : ∀ s ∈ ss, s.ok) (hsz : KTH + totalSize ss ≤ size)
    (hstop : walkEntries (size - ss.length) tail (KTH + totalSize ss) size = .ok []) :
    parseKeyTable (encodeTable index seq ck ss ++ tail) size = .ok { index, seq, entries := parsedFrom ss KTH } := by
  have hf : size = ss.length + (size - ss.length) := by have := length_le_totalSize ss; omega
  simp only [encodeTable, List.append_assoc]
  rw [parseKeyTable_encodeTable _ _ _ _ _ hi hq, congrArg (walkEntries · _ KTH size) hf, walkEntries_prefix ss hs tail size _ KTH hsz, hstop]
  simp [Except.map]

theorem keyOf_keyed (typ pidx poff ck ins : Nat) (key payload : Bytes) (off : Nat) (hk : validUtf8 key = true) :
    keyOf ((SEntry.keyed typ pidx poff ck ins key payload).parsed off) = .ok key := by
  have : sliceTo (key ++ [0] ++ payload) (key.length + 1) = key := by
    have k1 : KEY_TRIM = 1 := by decide
    simp only [sliceTo, k1, Nat.add_sub_cancel]
    rw [if_neg (by omega), List.append_assoc, List.take_left' rfl]
  simp only [keyOf, SEntry.parsed, SEntry.keyed, this, hk, if_true]

/-- the type word of an entry: the value's type in the low byte, the file-object flag in bit 8 -/
theorem kind_of_typ (v : Value) (fo : Bool) (e : Entry) (h : e.typ = v.typ + (if fo then 256 else 0)) :
    e.kind = v.typ ∧ e.isFo = fo := by
  cases v <;> cases fo <;> simp only [Value.typ] at h ⊢ <;> simp only [Entry.kind, Entry.isFo, Entry.flags, h] <;> decide

theorem valueOf_keyed (f : File) (fos : List (Nat × Nat)) (v : Value) (hv : v.inRange) (pidx poff ck ins : Nat) (key slack : Bytes) (off : Nat) :
    valueOf f fos ((SEntry.keyed v.typ pidx poff ck ins key (encodeValue v ++ slack)).parsed off) = .ok v := by
  have hk := kind_of_typ v false ((SEntry.keyed v.typ pidx poff ck ins key (encodeValue v ++ slack)).parsed off) rfl
  have hd : (key ++ [0] ++ (encodeValue v ++ slack)).drop (key.length + 1) = encodeValue v ++ slack := by
    rw [List.drop_left' (by simp)]
  simp only [valueOf, entryData, hk.2, Bool.false_eq_true, if_false, hk.1]
  simp only [SEntry.parsed, SEntry.keyed, hd]
  exact decodeValue_encodeValue v hv slack

/-! ### the registry of key tables: what `registerAll ts` holds under an index (`RegInv`), its keys -/

def SortedDesc (l : List KeyTable) : Prop := l.Pairwise (fun a b => b.seq ≤ a.seq)

theorem mem_insertBySeq (t u : KeyTable) (l : List KeyTable) : u ∈ insertBySeq t l ↔ u = t ∨ u ∈ l := by
  induction l with
  | nil => simp [insertBySeq]
  | cons h r ih =>
    simp only [insertBySeq]
    split
    · simp
    · simp only [List.mem_cons, ih]
      exact or_left_comm

theorem sorted_insertBySeq (t : KeyTable) (l : List KeyTable) (hl : SortedDesc l) : SortedDesc (insertBySeq t l) := by
  induction l with
  | nil => simp [insertBySeq, SortedDesc]
  | cons h r ih =>
    simp only [SortedDesc, List.pairwise_cons] at hl
    simp only [insertBySeq]
    split
    · simp only [SortedDesc, List.pairwise_cons, List.mem_cons]
      refine ⟨?_, hl.1, hl.2⟩
      rintro x (rfl | hx)
      · omega
      · have := hl.1 x hx; omega
    · simp only [SortedDesc, List.pairwise_cons]
      refine ⟨fun x hx => ?_, ih hl.2⟩
      rcases (mem_insertBySeq t x r).1 hx with rfl | hx
      · omega
      · exact hl.1 x hx

theorem insertBySeq_ne_nil (t : KeyTable) (l : List KeyTable) : insertBySeq t l ≠ [] := by
  cases l with
  | nil => simp [insertBySeq]
  | cons h r => simp only [insertBySeq]; split <;> simp

/-- the tables registered under an index, newest first -/
def tablesOf (acc : List (Nat × List KeyTable)) (idx : Nat) : List KeyTable := (acc.lookup idx).getD []

theorem activeTable_eq_head? (kts : List (Nat × List KeyTable)) (idx : Nat) : activeTable kts idx = (tablesOf kts idx).head? := by
  unfold activeTable tablesOf
  rcases kts.lookup idx with _ | _ | _ <;> rfl

theorem lookup_register_same (t : KeyTable) (acc : List (Nat × List KeyTable)) :
    (register t acc).lookup t.index = some (insertBySeq t (tablesOf acc t.index)) := by
  induction acc with
  | nil => simp [register, List.lookup, insertBySeq, tablesOf]
  | cons p r ih =>
    obtain ⟨i, ts⟩ := p
    by_cases h : i = t.index
    · subst h; simp [register, List.lookup, tablesOf]
    · have h' : (t.index == i) = false := by simp; omega
      simpa [register, h, List.lookup, h', tablesOf] using ih

theorem lookup_register_other (t : KeyTable) (acc : List (Nat × List KeyTable)) (i : Nat) (hi : i ≠ t.index) :
    (register t acc).lookup i = acc.lookup i := by
  have hit : (i == t.index) = false := by simp [hi]
  induction acc with
  | nil => simp [register, List.lookup, hit]
  | cons p r ih =>
    obtain ⟨j, ts⟩ := p
    by_cases h : j = t.index
    · simp [register, h, List.lookup, hit]
    · by_cases hij : i = j
      · subst hij; simp [register, h, List.lookup]
      · have : (i == j) = false := by simp [hij]
        simp [register, h, List.lookup, this, ih]

theorem register_keys (t : KeyTable) (acc : List (Nat × List KeyTable)) :
    (register t acc).map Prod.fst = if t.index ∈ acc.map Prod.fst then acc.map Prod.fst else acc.map Prod.fst ++ [t.index] := by
  induction acc with
  | nil => simp [register]
  | cons p r ih =>
    obtain ⟨i, ts⟩ := p
    by_cases h : i = t.index
    · simp [register, h]
    · have h' : ¬ t.index = i := fun e => h e.symm
      simp only [register, h, if_false, List.map_cons, ih, List.mem_cons, h', false_or]
      split <;> simp

theorem registerAll_snoc (ts : List KeyTable) (t : KeyTable) : registerAll (ts ++ [t]) = register t (registerAll ts) := by
  simp [registerAll, List.foldl_append]

theorem registerAll_induction {P : List KeyTable → List (Nat × List KeyTable) → Prop} (h0 : P [] [])
    (hs : ∀ ts t acc, P ts acc → P (ts ++ [t]) (register t acc)) : ∀ ts, P ts (registerAll ts) := by
  suffices ∀ (r pre : List KeyTable) acc, P pre acc → P (pre ++ r) (r.foldl (fun acc t => register t acc) acc) from
    fun ts => by simpa [registerAll] using this ts [] [] h0
  intro r
  induction r with
  | nil => intro pre acc h; simpa using h
  | cons t r ih => intro pre acc h; simpa [List.append_assoc] using ih (pre ++ [t]) _ (hs pre t acc h)

theorem registerAll_keys (ts : List KeyTable) : (registerAll ts).map Prod.fst = firstIdx (ts.map KeyTable.index) := by
  refine registerAll_induction (P := fun ts acc => acc.map Prod.fst = firstIdx (ts.map KeyTable.index)) rfl ?_ ts
  intro ts t acc h
  simp [register_keys, h, firstIdx, List.foldl_append]

theorem registerAll_nodup (ts : List KeyTable) : ((registerAll ts).map Prod.fst).Nodup :=
  registerAll_induction (P := fun _ acc => (acc.map Prod.fst).Nodup) (by simp) (fun _ t acc h => by
    rw [register_keys]
    split
    · exact h
    · rename_i hn
      exact List.nodup_append.2 ⟨h, by simp, fun a ha b hb => by rw [List.mem_singleton.1 hb]; exact fun e => hn (e ▸ ha)⟩) ts

/-- what the registry holds after the tables `S`: under every index exactly the tables of `S` with that index, by
    descending sequence number, and no empty list -/
def RegInv (acc : List (Nat × List KeyTable)) (S : List KeyTable) : Prop :=
  ∀ idx, SortedDesc (tablesOf acc idx) ∧ (∀ u, u ∈ tablesOf acc idx ↔ (u ∈ S ∧ u.index = idx)) ∧ acc.lookup idx ≠ some []

theorem RegInv_register (acc : List (Nat × List KeyTable)) (S : List KeyTable) (t : KeyTable) (h : RegInv acc S) :
    RegInv (register t acc) (S ++ [t]) := by
  intro idx
  obtain ⟨hs, hm, hne⟩ := h idx
  by_cases hi : idx = t.index
  · subst hi
    simp only [tablesOf, lookup_register_same, Option.getD_some, mem_insertBySeq, List.mem_append, List.mem_singleton]
    refine ⟨sorted_insertBySeq t _ hs, fun u => ?_, by simpa using insertBySeq_ne_nil t _⟩
    rw [← tablesOf, hm u]
    constructor
    · rintro (rfl | ⟨hu, hx⟩)
      · exact ⟨.inr rfl, rfl⟩
      · exact ⟨.inl hu, hx⟩
    · rintro ⟨hu | rfl, hx⟩
      · exact .inr ⟨hu, hx⟩
      · exact .inl rfl
  · simp only [tablesOf, lookup_register_other t acc idx hi, List.mem_append, List.mem_singleton]
    refine ⟨hs, fun u => ?_, hne⟩
    rw [← tablesOf, hm u]
    constructor
    · rintro ⟨hu, hx⟩; exact ⟨.inl hu, hx⟩
    · rintro ⟨hu | rfl, hx⟩
      · exact ⟨hu, hx⟩
      · exact absurd hx.symm hi

theorem RegInv_registerAll (ts : List KeyTable) : RegInv (registerAll ts) ts :=
  registerAll_induction (P := fun ts acc => RegInv acc ts) (fun idx => by simp [tablesOf, List.lookup, SortedDesc])
    (fun ts t acc h => RegInv_register acc ts t h) ts

theorem registerAll_mem (ts : List KeyTable) {i : Nat} {l : List KeyTable} (h : (i, l) ∈ registerAll ts) :
    l ≠ [] ∧ ∀ u ∈ l, u ∈ ts ∧ u.index = i := by
  have hl := lookup_of_mem _ (registerAll_nodup ts) i l h
  obtain ⟨_, hm, hne⟩ := RegInv_registerAll ts i
  simp only [tablesOf, hl, Option.getD_some] at hm
  exact ⟨fun e => hne (e ▸ hl), fun u hu => (hm u).1 hu⟩


/-! ### `load` halts: entry loop, object-table walk (distinct table offsets inside the file bound the fuel) -/

theorem walkEntries_halts : ∀ fuel rest off size, size - off ≤ fuel → Halts (walkEntries fuel rest off size)
  | 0, rest, off, size, h => by
    have : ¬ off < size := by omega
    simp [walkEntries, this]
  | fuel + 1, rest, off, size, h => by
    have hp : Halts (parseEntry rest off) := by unfold parseEntry; split <;> simp
    unfold walkEntries
    split
    · simp
    · split
      next _ herr => exact hp.of_error herr
      · rename_i e _
        split
        · simp
        · -- a non-zero entry size brings `off` closer to `size`
          split
          next _ herr => exact (walkEntries_halts fuel (rest.drop e.size) (off + e.size) size (by omega)).of_error herr
          · simp

theorem parseKeyTable_halts (raw : Bytes) (size : Nat) : Halts (parseKeyTable raw size) := by
  unfold parseKeyTable
  split
  · simp
  · split
    · simp
    · split
      next _ herr => exact (walkEntries_halts size _ KTH size (by omega)).of_error herr
      · simp

theorem checkReplayLog_halts (f : File) (off : Nat) : Halts (checkReplayLog f off) := by
  simp [checkReplayLog, field_halts]

theorem loadObjectTable_halts (f : File) (off : Nat) : Halts (loadObjectTable f off) := by
  simp [loadObjectTable, field_halts]

theorem loadObjectTable_lt {f : File} {off : Nat} {es : List ObjEntry} (h : loadObjectTable f off = .ok es) : off < f.size := by
  obtain ⟨_, h1, _⟩ := bind_ok h
  have h8 : OTH = 8 := by decide
  unfold File.field at h1
  split at h1
  · omega
  · cases h1

theorem stepEntry_halts (f : File) (e : ObjEntry) (w : Walk) : Halts (stepEntry f e w) := by
  have hobj : Halts (stepObj f e w) := by
    unfold stepObj
    split
    · split
      next _ herr => exact (loadObjectTable_halts f e.offset).of_error herr
      · simp
    · simp
  have hreg : ∀ r, Halts (stepReg f e r) := fun r => by
    unfold stepReg
    simp only [halts_bind, halts_ite, halts_ok, implies_true, and_true, true_and]
    refine ⟨fun _ => ?_, fun _ _ _ _ _ => ?_⟩
    · split
      next _ herr => exact (parseKeyTable_halts _ _).of_error herr
      · simp
    · split
      next _ herr => exact (checkReplayLog_halts _ _).of_error herr
      · simp
  unfold stepEntry
  split
  · simp
  · split
    next _ herr => exact hobj.of_error herr
    · split
      next _ herr => exact (hreg _).of_error herr
      · simp

theorem stepEntries_halts (f : File) : ∀ (es : List ObjEntry) (w : Walk), Halts (stepEntries f es w)
  | [], w => by simp [stepEntries]
  | e :: es, w => by
    unfold stepEntries
    split
    next _ herr => exact (stepEntry_halts f e w).of_error herr
    · exact stepEntries_halts f es _

theorem stepEntry_ok {f : File} {e : ObjEntry} {w w' : Walk} (h : stepEntry f e w = .ok w') :
    (e.allocated = 0 ∧ w' = w) ∨
      ∃ w1 r, stepObj f e w = .ok w1 ∧ stepReg f e w1.reg = .ok r ∧ w' = { w1 with reg := r } := by
  unfold stepEntry at h
  split at h
  · cases h; exact .inl ⟨‹_›, rfl⟩
  · split at h
    · cases h
    · split at h
      · cases h
      · cases h; exact .inr ⟨_, _, ‹_›, ‹_›, rfl⟩

/-- a property of the walk state that queueing a table and registering an object keep is kept by a whole table -/
theorem stepEntries_inv (f : File) (I : Walk → Prop)
    (hobj : ∀ e w w1, I w → stepObj f e w = .ok w1 → I w1)
    (hreg : ∀ e w r, I w → stepReg f e w.reg = .ok r → I { w with reg := r }) :
    ∀ (es : List ObjEntry) (w w' : Walk), I w → stepEntries f es w = .ok w' → I w'
  | [], w, w', hw, h => by cases h; exact hw
  | e :: es, w, w', hw, h => by
    unfold stepEntries at h
    split at h
    · cases h
    · rename_i w1 h1
      refine stepEntries_inv f I hobj hreg es w1 w' ?_ h
      rcases stepEntry_ok h1 with ⟨_, rfl⟩ | ⟨w0, r, h0, hr, rfl⟩
      · exact hw
      · exact hreg e w0 r (hobj e w w0 hw h0) hr

/-- the offsets of the loaded tables are distinct and lie inside the file; `c` tables have been taken off the queue -/
structure WInv (f : File) (c : Nat) (w : Walk) : Prop where
  nodup : w.visited.Nodup
  inside : ∀ o ∈ w.visited, o < f.size
  count : w.visited.length = w.pending.length + c

theorem stepObj_WInv (f : File) (c : Nat) (e : ObjEntry) (w w1 : Walk) (hw : WInv f c w) (h : stepObj f e w = .ok w1) : WInv f c w1 := by
  unfold stepObj at h
  split at h
  · rename_i hc
    split at h
    · cases h
    · rename_i es hl
      cases h
      have hnm : e.offset ∉ w.visited := by simpa using hc.2
      refine ⟨List.nodup_append.2 ⟨hw.nodup, by simp, ?_⟩, ?_, by simp [hw.count]; omega⟩
      · intro a ha b hb
        rw [List.mem_singleton.1 hb]
        exact fun hab => hnm (hab ▸ ha)
      · intro o ho
        rcases List.mem_append.1 ho with ho | ho
        · exact hw.inside o ho
        · rw [List.mem_singleton.1 ho]; exact loadObjectTable_lt hl
  · cases h; exact hw

/-- distinct table offsets inside the file, one fuel unit per table taken off the queue: `visited` cannot outgrow the file.
    Not an instance of an invariant lemma for `walkTables`: the invariant's parameter `c` grows at every dequeue and is tied to
    the fuel (`f.size ≤ fuel + c`), and the claim is about the error side -/
theorem walkTables_halts (f : File) : ∀ fuel (w : Walk) (c : Nat), WInv f c w → f.size ≤ fuel + c → Halts (walkTables f fuel w)
  | 0, w, c, hw, h => by
    have hle : w.visited.length ≤ f.size := by
      have := List.Nodup.length_le_of_subset hw.nodup (l₂ := List.range f.size) (fun x hx => List.mem_range.2 (hw.inside x hx))
      simpa using this
    have : w.pending = [] := List.eq_nil_of_length_eq_zero (by have := hw.count; omega)
    simp [walkTables, this]
  | fuel + 1, w, c, hw, h => by
    unfold walkTables
    split
    · simp
    · rename_i es rest hp
      have hw0 : WInv f (c + 1) { w with pending := rest } := ⟨hw.nodup, hw.inside, by
        have := hw.count
        rw [hp, List.length_cons] at this
        show w.visited.length = rest.length + (c + 1)
        omega⟩
      split
      next _ herr => exact (stepEntries_halts f es _).of_error herr
      · rename_i w' h1
        have hw' := stepEntries_inv f (WInv f (c + 1)) (stepObj_WInv f (c + 1))
          (fun _ _ _ h _ => ⟨h.nodup, h.inside, h.count⟩) es _ w' hw0 h1
        exact walkTables_halts f fuel w' (c + 1) hw' (by omega)

theorem load_halts (f : File) : Halts (load f) := by
  have hh : ∀ off, Halts (parseHeader f off) := fun off => by simp [parseHeader, field_halts]
  unfold load
  simp only [halts_bind, halts_ite, halts_error, hh, checkReplayLog_halts, loadObjectTable_halts, true_and]
  intro h1 _ h2 _
  refine ⟨by simp, fun _ => ⟨by simp, fun _ _ _ es hes => ?_⟩⟩
  exact walkTables_halts f _ _ 0 ⟨by simp, by simpa using loadObjectTable_lt hes, rfl⟩ (by simp [walkFuel])


/-! ### a concrete file for the non-vacuity example: a physical description (`exPhys`) laid out by the writer -/

/-- the file `fileOf segs size` (`fileOf_eq_packed`), each segment held as one number (`leNat`) and a byte read off it by a
    shift: the form in which `exFile` is handed to `decide +kernel`, which on `fileOf` walks unevaluated appends per byte -/
def packedFile (segs : List (Nat × Bytes)) (size : Nat) : File :=
  ⟨size, fun p => match (segs.map fun s => (s.1, s.2.length, leNat s.2)).find? (fun s => decide (s.1 ≤ p ∧ p < s.1 + s.2.1)) with
    | some s => UInt8.ofNat (s.2.2 >>> (8 * (p - s.1)))
    | none => 0⟩

theorem getD_eq_leNat (b : Bytes) : ∀ i, b.getD i 0 = UInt8.ofNat (leNat b >>> (8 * i)) := by
  induction b with
  | nil => intro i; simp [leNat]
  | cons a r ih =>
    have ha : a.toNat < 256 := UInt8.toNat_lt a
    intro i
    cases i with
    | zero =>
      apply UInt8.toNat_inj.1
      simp [leNat]
    | succ i =>
      have e : (a.toNat + 256 * leNat r) >>> 8 = leNat r := by rw [Nat.shiftRight_eq_div_pow]; omega
      rw [List.getD_cons_succ, ih i, leNat, Nat.mul_add, Nat.add_comm (8 * i), Nat.shiftRight_add, e]

theorem fileOf_eq_packed (segs : List (Nat × Bytes)) (size : Nat) : fileOf segs size = packedFile segs size := by
  unfold fileOf packedFile
  congr 1
  funext p
  induction segs with
  | nil => rfl
  | cons s r ih =>
    simp only [segByte, List.map_cons, List.find?_cons]
    by_cases h : s.1 ≤ p ∧ p < s.1 + s.2.length
    · rw [if_pos h, getD_eq_leNat, decide_eq_true h]
    · rw [if_neg h, ih, decide_eq_false h]

def exNode (pidx poff : Nat) (key : Bytes) : SEntry := SEntry.keyed tNode pidx poff 0 0 key (zeros 12)
def exVal (pidx poff : Nat) (key : Bytes) (v : Value) (slack : Bytes) : SEntry :=
  SEntry.keyed v.typ pidx poff 0xAABBCCDD 7 key (encodeValue v ++ slack)
def exFree (n : Nat) : SEntry := { typ := tFree, pidx := 9, poff := 9, ck := 0, ins := 0, doff := 3, body := List.replicate n 0xEE }

/-- active table of index 1 (sequence 5): node `cfg` at offset 10, a free entry, an Int and a UInt below `cfg` -/
def exT1 : List SEntry :=
  [exNode 0 0 [99, 102, 103], exFree 5, exVal 1 10 [110] (.int (-5)) [1, 2, 3], exVal 1 10 [117] (.uint (2 ^ 64 - 1)) []]
/-- stale copy of index 1 (sequence 1), listed later in the object table: same offsets, other content -/
def exT1old : List SEntry := [exNode 0 0 [111, 108, 100], exFree 5, exVal 1 10 [110] (.int 7) [1, 2, 3]]
/-- table of index 2: a string held in a file object, a bool and a double, all children of (1, 10) -/
def exT2 : List SEntry :=
  [SEntry.keyed (tString + 256) 1 10 0 0 [115] (leBytes 4 4 ++ leBytes 8 0x7000 ++ []),
   exVal 1 10 [98] (.bool true) [], exVal 1 10 [100] (.double 0x7FF8000000000001) []]

/-- second header active; one object table: the active table of index 1 before its stale copy, that copy once more
    unallocated, the table of index 2, a File object, and the object table itself -/
def exPhys : Phys :=
  { h1 := ⟨SIGNATURE_STORAGE_HEADER, 0, 1, VERSION, 0, 0x1000, 0x3000, 0x1000, 0x1000⟩
    h2 := ⟨SIGNATURE_STORAGE_HEADER, 0, 2, VERSION, 0, 0x1000, 0x3000, 0x1000, 0x1000⟩
    logs := [⟨0x3000, 0, 0, zeros 22⟩]
    ots := [⟨0x2000, [⟨otKeyTable, 0, 0x4000, KTH + totalSize exT1, 1⟩, ⟨otKeyTable, 0, 0x6000, KTH + totalSize exT2, 1⟩,
                      ⟨otFile, 0, 0x7000, 0x1000, 1⟩, ⟨otKeyTable, 0, 0x5000, KTH + totalSize exT1old, 1⟩,
                      ⟨otKeyTable, 0, 0x5000, KTH + totalSize exT1old, 0⟩, ⟨otObjectTable, 0, 0x2000, 8, 1⟩]⟩]
    kts := [⟨0x4000, 1, 5, 0, exT1, none⟩, ⟨0x5000, 1, 1, 0, exT1old, none⟩, ⟨0x6000, 2, 9, 0, exT2, none⟩]
    blobs := [(0x7000, unitsBytes [104, 105])]
    size := 0x8000 }

def exFile : File := packedFile exPhys.segs exPhys.size

def exExpected : List (Bytes × Option Value) :=
  [([99, 102, 103], none), ([110], some (.int (-5))), ([117], some (.uint (2 ^ 64 - 1))), ([115], some (.str [104, 105])),
   ([98], some (.bool true)), ([100], some (.double 0x7FF8000000000001))]

/-- two-level flattening, enough for the example -/
def flat2 : Tree → List (Bytes × Option Value)
  | .leaf _ => []
  | .node cs => cs.flatMap fun (k, t) => match t with
    | .leaf v => [(k, some v)]
    | .node cs' => (k, none) :: cs'.map fun (k', t') => match t' with | .leaf v => (k', some v) | .node _ => (k', none)

def exCheck : Bool :=
  match asDict exFile with
  | .ok t => flat2 t == exExpected
  | .error _ => false

end Hv.HyperV
