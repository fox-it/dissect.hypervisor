/-
  The read loop that the block-structured formats share, and what holds of it whatever the format.
-/
import HvProofs.Basic
import HvProofs.Outcome
namespace Hv

/-- Serve `len` units starting at `off`, piece by piece, no piece crossing a multiple of `unit`: the `while` loop of
    `VDI._read` and of the `read_sectors` of VHD and VHDX (`Vdi.readLoop_eq`, `Vhd.readSectorsDyn_eq`,
    `Vhdx.readSectors_eq`). Every piece is non-empty, so `len` is enough fuel. -/
def blockLoop (unit : Nat) (piece : Nat → Nat → Except Err Bytes) : Nat → Nat → Nat → Except Err Bytes
  | 0, _, len => if len = 0 then .ok [] else .error .nonTermination
  | fuel+1, off, len =>
    if len = 0 then .ok [] else do
      let c ← piece off (min len (unit - off % unit))
      let rest ← blockLoop unit piece fuel (off + min len (unit - off % unit)) (len - min len (unit - off % unit))
      .ok (c ++ rest)

variable {unit : Nat} {piece : Nat → Nat → Except Err Bytes}

theorem blockLoop_zero (fuel off : Nat) : blockLoop unit piece fuel off 0 = .ok [] := by
  cases fuel <;> rfl

theorem blockLoop_succ (fuel off : Nat) {len n : Nat} (hl : len ≠ 0) (hn : min len (unit - off % unit) = n) :
    blockLoop unit piece (fuel + 1) off len =
      (do let c ← piece off n
          let rest ← blockLoop unit piece fuel (off + n) (len - n)
          .ok (c ++ rest)) := by
  subst hn
  rw [blockLoop, if_neg hl]

/-- If every piece inside `[0, bound)` reads as the slice of `g` it stands for (`k` bytes to the unit of
    addressing), so does the loop. -/
theorem blockLoop_correct (g : Nat → UInt8) (k bound : Nat) (hu : 0 < unit)
    (hp : ∀ off n, 0 < n → off % unit + n ≤ unit → off + n ≤ bound →
      piece off n = .ok (slice g (off * k) (n * k))) :
    ∀ fuel off len, len ≤ fuel → off + len ≤ bound →
      blockLoop unit piece fuel off len = .ok (slice g (off * k) (len * k)) := by
  intro fuel
  induction fuel with
  | zero =>
    intro off len hf _
    obtain rfl : len = 0 := by omega
    rw [blockLoop_zero, Nat.zero_mul, slice_zero]
  | succ fuel ih =>
    intro off len hf hb
    by_cases hl : len = 0
    · subst hl; rw [blockLoop_zero, Nat.zero_mul, slice_zero]
    · generalize hn : min len (unit - off % unit) = n
      obtain ⟨h1, h2, h3, _⟩ := block_step hu hl hn
      rw [blockLoop_succ _ _ hl hn, hp off n h1 h3 (by omega), ih (off + n) (len - n) (by omega) (by omega)]
      have : len * k = n * k + (len - n) * k := by rw [← Nat.add_mul, Nat.add_sub_cancel' h2]
      rw [this, slice_append, Nat.add_mul]
      rfl

theorem blockLoop_progress (hu : 0 < unit) (hp : ∀ off n, piece off n ≠ .error .nonTermination) :
    ∀ fuel off len, len ≤ fuel → blockLoop unit piece fuel off len ≠ .error .nonTermination := by
  intro fuel
  induction fuel with
  | zero =>
    intro off len hf
    obtain rfl : len = 0 := by omega
    rw [blockLoop_zero]; exact nofun
  | succ fuel ih =>
    intro off len hf
    by_cases hl : len = 0
    · subst hl; rw [blockLoop_zero]; exact nofun
    · generalize hn : min len (unit - off % unit) = n
      have h1 := (block_step hu hl hn).1
      rw [blockLoop_succ _ _ hl hn]
      exact bind_ne_error (hp off n) fun _ _ => bind_ne_error (ih (off + n) (len - n) (by omega)) fun _ _ => nofun

/-- Two loops agree when their pieces agree along the way; `I` says where the way leads (for a request `(off₀, len₀)`:
    `off₀ ≤ off`, `off + len = off₀ + len₀`, `off` is `off₀` or a multiple of `unit`). -/
theorem blockLoop_congr {q : Nat → Nat → Except Err Bytes} (I : Nat → Nat → Prop)
    (hnext : ∀ off len, I off len → len ≠ 0 →
      I (off + min len (unit - off % unit)) (len - min len (unit - off % unit)))
    (h : ∀ off len, I off len → len ≠ 0 → piece off (min len (unit - off % unit)) = q off (min len (unit - off % unit))) :
    ∀ fuel off len, I off len → blockLoop unit piece fuel off len = blockLoop unit q fuel off len := by
  intro fuel
  induction fuel with
  | zero => intro off len _; rfl
  | succ fuel ih =>
    intro off len hI
    by_cases hl : len = 0
    · subst hl; rw [blockLoop_zero, blockLoop_zero]
    · rw [blockLoop_succ _ _ hl rfl, blockLoop_succ _ _ hl rfl, h off len hI hl, ih _ _ (hnext off len hI hl)]

end Hv
