/- The QCOW2 run loop on arbitrary tables (no `Conformant`, no `guest`).  What FootprintQcow2 and C11 build on. -/
import HvProofs.Qcow2Bits
import HvProofs.Outcome
namespace Hv.Qcow2
open Hv Hv.Extracted.qcow2

theorem cs_eq (q : QCow2) : q.cs = q.clusterSize := rfl
theorem cs_pos (q : QCow2) : 0 < q.cs := Nat.two_pow_pos _
theorem scPer_pos (q : QCow2) : 0 < q.scPer := by unfold QCow2.scPer; split <;> decide

/-- the derived sizes of an image whose header passed the gates.  `l1sh`: the shift of `offset_to_l1_index` is a division by
    the bytes one L2 table maps; `tbl`: an L2 table is exactly one cluster; `l2`: the code's `l2_size` is the specification's. -/
structure Geom (q : QCow2) : Prop where
  per_size : q.scPer * q.scSize = q.cs
  bits : 2 ^ q.scBits = q.scSize
  size_pos : 0 < q.scSize
  l2 : q.l2Size = q.l2n
  l2_pos : 0 < q.l2Size
  l1sh : 2 ^ (q.l2Bits + q.clusterBits) = q.l2Size * q.cs
  tbl : q.l2Size * q.l2EntrySize = q.cs

theorem entrySize_eq (q : QCow2) : q.l2EntrySize = q.entrySize := by
  unfold QCow2.l2EntrySize QCow2.entrySize; cases q.sub <;> rfl

theorem geom_of (q : QCow2) (m k : Nat) (hper : q.scPer = 2 ^ m) (hes : q.l2EntrySize = 2 ^ k)
    (hm : m ≤ q.clusterBits) (hk : k ≤ q.clusterBits)
    (hcb : q.clusterBits ≤ 21) : Geom q := by
  have hcs : q.cs = 2 ^ q.clusterBits := rfl
  have e2 : q.scSize = 2 ^ (q.clusterBits - m) := by
    unfold QCow2.scSize; rw [hper, hcs, Nat.pow_div hm (by decide)]
  have e3 : q.scBits = q.clusterBits - m := by
    unfold QCow2.scBits; rw [e2]; exact ctz_two_pow _ (by omega)
  have e5 : q.l2Bits = q.clusterBits - k := by unfold QCow2.l2Bits; rw [hes, ctz_two_pow k (by omega)]
  have e6 : q.l2Size = 2 ^ (q.clusterBits - k) := by unfold QCow2.l2Size; rw [e5]
  refine ⟨?_, by rw [e3, e2], by rw [e2]; exact Nat.two_pow_pos _, ?_, by rw [e6]; exact Nat.two_pow_pos _, ?_, ?_⟩
  · rw [hper, e2, hcs, ← Nat.pow_add]; congr 1; omega
  · unfold QCow2.l2n QCow2.clusterSize; rw [e6, ← entrySize_eq, hes, Nat.pow_div hk (by decide)]
  · rw [e5, e6, hcs, ← Nat.pow_add]
  · rw [e6, hes, hcs, ← Nat.pow_add]; congr 1; omega

theorem geom (q : QCow2) (h : HdrOK q) : Geom q := by
  have h1 := h.cb_lo
  cases hs : q.sub with
  | false =>
    exact geom_of q 0 3 (by simp [QCow2.scPer, hs]) (by simp [QCow2.l2EntrySize, hs, L2E_SIZE_NORMAL])
      (by omega) (by omega) h.cb_hi
  | true =>
    have := h.sub_lo hs
    exact geom_of q 5 4 (by simp [QCow2.scPer, hs, QCOW_EXTL2_SUBCLUSTERS_PER_CLUSTER])
      (by simp [QCow2.l2EntrySize, hs, L2E_SIZE_EXTENDED]) (by omega) (by omega) h.cb_hi

/-! `get_subcluster_type` and `get_subcluster_range_type` on arbitrary entries: the range returned is uniform -/

theorem clusterType_eq (q : QCow2) (e : Nat) :
    q.clusterType e =
      if e.testBit 62 = true then .compressed
      else if e.testBit 0 = true ∧ ¬ q.sub = true then (if hostOff e ≠ 0 then .zeroAlloc else .zeroPlain)
      else if hostOff e = 0 then (if q.hasDataFile = true ∧ e.testBit 63 = true then .normal else .unallocated)
      else .normal := by
  unfold QCow2.clusterType
  simp only [compressed_flag, zero_flag, copied_flag, offset_mask]

/-- the sub-cluster type of a standard entry in terms of the specification's bit fields -/
def QCow2.stdType (q : QCow2) (e : Nat) : Nat :=
  if e.testBit 62 = true then SC_COMPRESSED
  else if e.testBit 0 = true then (if hostOff e ≠ 0 then SC_ZERO_ALLOC else SC_ZERO_PLAIN)
  else if hostOff e = 0 then (if q.hasDataFile = true ∧ e.testBit 63 = true then SC_NORMAL else SC_UNALLOC_PLAIN)
  else SC_NORMAL

theorem subclusterType_std_eq (q : QCow2) (hs : q.sub = false) (e bm s : Nat) :
    q.subclusterType e bm s = .ok (q.stdType e) := by
  unfold QCow2.subclusterType QCow2.stdType
  simp only [hs, Bool.false_eq_true, if_false]
  rw [clusterType_eq]
  simp only [hs, Bool.false_eq_true, not_false_eq_true, and_true]
  by_cases h62 : e.testBit 62 = true
  · rw [if_pos h62, if_pos h62]
  rw [if_neg h62, if_neg h62]
  by_cases h0 : e.testBit 0 = true
  · rw [if_pos h0, if_pos h0]
    by_cases ho : hostOff e ≠ 0
    · rw [if_pos ho, if_pos ho]
    · rw [if_neg ho, if_neg ho]
  rw [if_neg h0, if_neg h0]
  by_cases ho : hostOff e = 0
  · rw [if_pos ho, if_pos ho]
    by_cases hd : q.hasDataFile = true ∧ e.testBit 63 = true
    · rw [if_pos hd, if_pos hd]
    · rw [if_neg hd, if_neg hd]
  · rw [if_neg ho, if_neg ho]

theorem subclusterType_sub (q : QCow2) (hs : q.sub = true) (e bm s : Nat) :
    q.subclusterType e bm s =
      match q.clusterType e with
      | .compressed => .ok SC_COMPRESSED
      | .normal =>
        if (bm >>> 32) &&& bm ≠ 0 then .ok SC_INVALID
        else if bm.testBit (s + 32) = true then .ok SC_ZERO_ALLOC
        else if bm.testBit s = true then .ok SC_NORMAL else .ok SC_UNALLOC_ALLOC
      | .unallocated =>
        if bm &&& (2 ^ 32 - 1) ≠ 0 then .ok SC_INVALID
        else if bm.testBit (s + 32) = true then .ok SC_ZERO_PLAIN else .ok SC_UNALLOC_PLAIN
      | _ => .error .other := by
  unfold QCow2.subclusterType
  simp only [hs, if_true, ← Nat.pow_add, and_two_pow_ne_zero]
  cases q.clusterType e <;> rfl

theorem subclusterType_std_ok (q : QCow2) (hs : q.sub = false) (e bm s : Nat) :
    ∃ t, q.subclusterType e bm s = .ok t ∧ t ≠ SC_INVALID ∧ t ≠ SC_UNALLOC_ALLOC := by
  refine ⟨_, subclusterType_std_eq q hs e bm s, ?_⟩
  unfold QCow2.stdType
  (repeat' split) <;> decide

theorem scPer_sub (q : QCow2) (hs : q.sub = true) : q.scPer = 32 := by
  simp [QCow2.scPer, hs, QCOW_EXTL2_SUBCLUSTERS_PER_CLUSTER]
/-- a standard entry has one sub-cluster: the range is the whole cluster -/
theorem rangeType_whole (q : QCow2) (e bm sf t : Nat) (ht : q.subclusterType e bm sf = .ok t)
    (hs : q.sub = false) : q.subclusterRangeType e bm sf = .ok (t, q.scPer - sf) := by
  unfold QCow2.subclusterRangeType
  rw [ht]
  exact if_pos (Or.inl (by rw [hs]; nofun))

theorem rangeType_sub (q : QCow2) (hs : q.sub = true) (e bm sf t : Nat) (ht : q.subclusterType e bm sf = .ok t) :
    q.subclusterRangeType e bm sf =
      if t = SC_COMPRESSED then .ok (t, 32 - sf)
      else if t = SC_NORMAL then .ok (t, cto (bm ||| (2 ^ sf - 1)) 32 - sf)
      else if ZERO_SUBCLUSTER_TYPES.contains t then .ok (t, cto ((bm ||| ((2 ^ sf - 1) <<< 32)) >>> 32) 32 - sf)
      else if UNALLOCATED_SUBCLUSTER_TYPES.contains t then
        .ok (t, ctz (((bm >>> 32) ||| bm) &&& (2 ^ 64 - 1 - (2 ^ sf - 1))) 32 - sf)
      else .error .other := by
  unfold QCow2.subclusterRangeType
  rw [ht]
  simp only [bind, Except.bind, hs, scPer_sub q hs, not_true, false_or]
  rfl

theorem rangeType_ok (q : QCow2) (e bm sf t : Nat) (ht : q.subclusterType e bm sf = .ok t)
    (hle : t ≤ SC_COMPRESSED) :
    ∃ n, q.subclusterRangeType e bm sf = .ok (t, n) := by
  cases hs : q.sub with
  | false => exact ⟨_, rangeType_whole q e bm sf t ht hs⟩
  | true =>
    rw [rangeType_sub q hs e bm sf t ht]
    have hle : t ≤ 5 := hle
    have : t = 0 ∨ t = 1 ∨ t = 2 ∨ t = 3 ∨ t = 4 ∨ t = 5 := by omega
    rcases this with rfl | rfl | rfl | rfl | rfl | rfl <;> exact ⟨_, rfl⟩

theorem rangeType_sound (q : QCow2) (e bm sf t n : Nat) (hsf : sf < q.scPer)
    (h : q.subclusterRangeType e bm sf = .ok (t, n)) :
    1 ≤ n ∧ sf + n ≤ q.scPer ∧ q.subclusterType e bm sf = .ok t ∧
      ∀ s, sf ≤ s → s < sf + n → q.subclusterType e bm s = .ok t := by
  have ⟨t', ht, _⟩ := bind_ok h
  cases hs : q.sub with
  | false =>
    rw [rangeType_whole q e bm sf t' ht hs] at h
    cases h
    have hper : q.scPer = 1 := by simp [QCow2.scPer, hs]
    rw [hper] at hsf ⊢
    exact ⟨by omega, by omega, ht, fun s _ _ => by rw [subclusterType_std_eq q hs] at ht ⊢; exact ht⟩
  | true =>
    -- by cluster type, then by the zero and allocation bit of sub-cluster `sf`: in each case `rangeType_sub` names the
    -- word whose trailing ones / zeros are counted, and `cto_range` / `ctz_range` turn the count into a run of
    -- sub-clusters with the same two bits, hence the same type
    have hper := scPer_sub q hs
    rw [hper] at hsf ⊢
    have hT := subclusterType_sub q hs e bm
    rw [hT] at ht
    cases hct : q.clusterType e with
    | compressed =>
      rw [hct] at ht
      cases ht
      rw [rangeType_sub q hs e bm sf _ (by rw [hT, hct])] at h
      cases h
      exact ⟨by omega, by omega, by rw [hT, hct], fun s _ _ => by rw [hT, hct]⟩
    | zeroPlain => rw [hct] at ht; cases ht
    | zeroAlloc => rw [hct] at ht; cases ht
    | normal =>
      rw [hct] at ht
      have hN : ∀ s, q.subclusterType e bm s =
          if (bm >>> 32) &&& bm ≠ 0 then .ok SC_INVALID
          else if bm.testBit (s + 32) = true then .ok SC_ZERO_ALLOC
          else if bm.testBit s = true then .ok SC_NORMAL else .ok SC_UNALLOC_ALLOC := by
        intro s; rw [hT, hct]
      by_cases hX : (bm >>> 32) &&& bm ≠ 0
      · rw [rangeType_sub q hs e bm sf _ (by rw [hN, if_pos hX])] at h; cases h
      · simp only [if_neg hX] at ht hN
        by_cases hz : bm.testBit (sf + 32) = true
        · rw [rangeType_sub q hs e bm sf _ (by rw [hN, if_pos hz])] at h
          cases h
          obtain ⟨h1, h2, h3⟩ := cto_range _ sf (fun i => bm.testBit (i + 32)) (zeroVal_bit bm sf) hsf hz
          exact ⟨h1, h2, by rw [hN, if_pos hz], fun s hs1 hs2 => by rw [hN, if_pos (h3 s hs1 hs2)]⟩
        · by_cases ha : bm.testBit sf = true
          · rw [rangeType_sub q hs e bm sf _ (by rw [hN, if_neg hz, if_pos ha])] at h
            cases h
            obtain ⟨h1, h2, h3⟩ := cto_range (bm ||| (2 ^ sf - 1)) sf bm.testBit
              (fun i => by rw [Nat.testBit_or, Nat.testBit_two_pow_sub_one]) hsf ha
            refine ⟨h1, h2, by rw [hN, if_neg hz, if_pos ha], fun s hs1 hs2 => ?_⟩
            have hzs : bm.testBit (s + 32) = false := Bool.eq_false_iff.mpr fun hz =>
              (disjoint_iff bm).mp (Classical.not_not.mp hX) s ⟨h3 s hs1 hs2, hz⟩
            rw [hN, if_neg (by rw [hzs]; nofun), if_pos (h3 s hs1 hs2)]
          · rw [rangeType_sub q hs e bm sf _ (by rw [hN, if_neg hz, if_neg ha])] at h
            cases h
            obtain ⟨h1, h2, h3⟩ := ctz_range _ sf (fun i => bm.testBit (i + 32) || bm.testBit i)
              (fun i hi => unallocVal_bit bm sf i (by omega) hi) hsf (by simp [hz, ha])
            refine ⟨h1, h2, by rw [hN, if_neg hz, if_neg ha], fun s hs1 hs2 => ?_⟩
            have := h3 s hs1 hs2
            simp only [Bool.or_eq_false_iff] at this
            rw [hN, if_neg (by rw [this.1]; nofun), if_neg (by rw [this.2]; nofun)]
    | unallocated =>
      rw [hct] at ht
      have hU : ∀ s, q.subclusterType e bm s =
          if bm &&& (2 ^ 32 - 1) ≠ 0 then .ok SC_INVALID
          else if bm.testBit (s + 32) = true then .ok SC_ZERO_PLAIN else .ok SC_UNALLOC_PLAIN := by
        intro s; rw [hT, hct]
      by_cases hY : bm &&& (2 ^ 32 - 1) ≠ 0
      · rw [rangeType_sub q hs e bm sf _ (by rw [hU, if_pos hY])] at h; cases h
      · simp only [if_neg hY] at ht hU
        by_cases hz : bm.testBit (sf + 32) = true
        · rw [rangeType_sub q hs e bm sf _ (by rw [hU, if_pos hz])] at h
          cases h
          obtain ⟨h1, h2, h3⟩ := cto_range _ sf (fun i => bm.testBit (i + 32)) (zeroVal_bit bm sf) hsf hz
          exact ⟨h1, h2, by rw [hU, if_pos hz], fun s hs1 hs2 => by rw [hU, if_pos (h3 s hs1 hs2)]⟩
        · rw [rangeType_sub q hs e bm sf _ (by rw [hU, if_neg hz])] at h
          cases h
          obtain ⟨h1, h2, h3⟩ := ctz_range _ sf (fun i => bm.testBit (i + 32) || bm.testBit i)
            (fun i hi => unallocVal_bit bm sf i (by omega) hi) hsf (by simp [hz, (lowBits_iff bm).mp (Classical.not_not.mp hY) sf hsf])
          refine ⟨h1, h2, by rw [hU, if_neg hz], fun s hs1 hs2 => ?_⟩
          have := h3 s hs1 hs2
          simp only [Bool.or_eq_false_iff] at this
          rw [hU, if_neg (by rw [this.1]; nofun)]

/-! `count_contiguous_subclusters` on arbitrary tables: one iteration (`CC.next`), the invariant (`CountInv`), soundness -/

/-- the types whose host offsets must be contiguous -/
def Chk (t : Nat) : Prop := t = SC_NORMAL ∨ t = SC_ZERO_ALLOC ∨ t = SC_UNALLOC_ALLOC
instance (t : Nat) : Decidable (Chk t) := by unfold Chk; infer_instance

/-- sub-cluster position `p`, counted from the start of the cluster with L2 index `l2Index` (not from the first
    sub-cluster of the run: so `p / scPer` is the entry and `p % scPer` the sub-cluster in it), has type `t0`
    and (for the offset-checked types) its cluster lies `p / scPer` clusters behind `off0` -/
def Good (q : QCow2) (l2Offset l2Index t0 off0 p : Nat) : Prop :=
  ∃ e bm, q.l2Entry l2Offset (l2Index + p / q.scPer) = .ok (e, bm) ∧
    q.subclusterType e bm (p % q.scPer) = .ok t0 ∧
    (Chk t0 → e &&& L2E_OFFSET_MASK = off0 + (p / q.scPer) * q.cs)

/-- what an iteration of the loop does once entry `i` is fetched and its first range `(t, n)` is classified:
    stop with a count (`inl`), or go on to entry `i + 1` with a new state (`inr`) -/
def CC.next (q : QCow2) (scIndex i : Nat) (st : CC) (e t n : Nat) : Nat ⊕ CC :=
  if i = 0 then
    if t = SC_COMPRESSED then .inl n
    else if scIndex + n < q.scPer then .inl n
    else .inr ⟨n, t, e &&& L2E_OFFSET_MASK, Chk t⟩
  else if t ≠ st.expType then .inl st.count
  else
    let exp := if st.checkOffset then st.expOffset + q.cs else st.expOffset
    if st.checkOffset ∧ exp ≠ e &&& L2E_OFFSET_MASK then .inl st.count
    else if n < q.scPer then .inl (st.count + n)
    else .inr { st with count := st.count + n, expOffset := exp }

theorem countLoop_succ (q : QCow2) (l2Offset l2Index scIndex k i : Nat) (st : CC) :
    q.countLoop l2Offset l2Index scIndex (k + 1) i st =
      (q.l2Entry l2Offset (l2Index + i)).bind fun eb =>
      (q.subclusterRangeType eb.1 eb.2 (if i = 0 then scIndex else 0)).bind fun tn =>
        (CC.next q scIndex i st eb.1 tn.1 tn.2).elim .ok (q.countLoop l2Offset l2Index scIndex k (i + 1)) := by
  rw [QCow2.countLoop]
  cases q.l2Entry l2Offset (l2Index + i) with
  | error err => rfl
  | ok eb =>
    obtain ⟨e, bm⟩ := eb
    simp only [bind, Except.bind]
    cases q.subclusterRangeType e bm (if i = 0 then scIndex else 0) with
    | error err => rfl
    | ok tn =>
      obtain ⟨t, n⟩ := tn
      simp only [CC.next, Chk, apply_ite (Sum.elim _ _), Sum.elim_inl, Sum.elim_inr]
      by_cases hi : i = 0
      · simp only [hi, if_true, Nat.zero_add]
      · simp only [hi, if_false, Nat.zero_add]

theorem countLoop_ok (q : QCow2) (l2Offset l2Index scIndex : Nat) :
    ∀ k i st,
      (∀ j, i ≤ j → j < i + k → ∃ e bm t n, q.l2Entry l2Offset (l2Index + j) = .ok (e, bm) ∧
        q.subclusterRangeType e bm (if j = 0 then scIndex else 0) = .ok (t, n)) →
      ∃ cnt, q.countLoop l2Offset l2Index scIndex k i st = .ok cnt := by
  intro k
  induction k with
  | zero => intro i st _; exact ⟨_, rfl⟩
  | succ k ih =>
    intro i st h
    obtain ⟨e, bm, t, n, hE, hR⟩ := h i (Nat.le_refl _) (by omega)
    rw [countLoop_succ, hE, Except.bind, hR, Except.bind]
    cases CC.next q scIndex i st e t n with
    | inl c => exact ⟨_, rfl⟩
    | inr st' => exact ih (i + 1) _ (fun j h1 h2 => h j (by omega) (by omega))

/-- the state of the loop before entry `i ≥ 1`: the sub-clusters of the entries before `i` are all counted,
    have the type `t0` of the first one and (where offsets are checked) contiguous clusters from `off0` on.
    `count` is measured from `scIndex`, positions from the start of the first cluster: hence `+ scIndex`.
    `expOffset` is the offset of entry `i - 1`; `offset` adds `cs` on both sides instead of writing `i - 1`. -/
structure CountInv (q : QCow2) (l2Offset l2Index scIndex t0 off0 i : Nat) (st : CC) : Prop where
  pos : 1 ≤ i
  count : st.count + scIndex = i * q.scPer
  type : st.expType = t0
  check : st.checkOffset = true ↔ Chk t0
  offset : Chk t0 → st.expOffset + q.cs = off0 + i * q.cs
  good : ∀ p, scIndex ≤ p → p < i * q.scPer → Good q l2Offset l2Index t0 off0 p

theorem CountInv.preserved {q : QCow2} {l2Offset l2Index scIndex t0 off0 i : Nat} {st : CC}
    (inv : CountInv q l2Offset l2Index scIndex t0 off0 i st) {e bm t n : Nat}
    (hE : q.l2Entry l2Offset (l2Index + i) = .ok (e, bm)) (hR : q.subclusterRangeType e bm 0 = .ok (t, n)) :
    match CC.next q scIndex i st e t n with
    | .inl c => st.count ≤ c ∧ ∀ p, scIndex ≤ p → p < scIndex + c → Good q l2Offset l2Index t0 off0 p
    | .inr st' => st.count ≤ st'.count ∧ CountInv q l2Offset l2Index scIndex t0 off0 (i + 1) st' := by
  have hper := scPer_pos q
  obtain ⟨hi, hc, hty, hck, hoff, hP⟩ := inv
  obtain ⟨hn1, hn2, _, hrng⟩ := rangeType_sound q e bm 0 t n hper hR
  have hold : ∀ p, scIndex ≤ p → p < scIndex + st.count → Good q l2Offset l2Index t0 off0 p :=
    fun p h1 h2 => hP p h1 (by omega)
  have hi0 : ¬ i = 0 := by omega
  unfold CC.next
  rw [if_neg hi0]
  by_cases hne : t ≠ st.expType
  · rw [if_pos hne]; exact ⟨Nat.le_refl _, hold⟩
  rw [if_neg hne]
  have hteq : t = t0 := by rw [← hty]; exact Classical.not_not.mp hne
  by_cases hbr : st.checkOffset = true ∧
      (if st.checkOffset = true then st.expOffset + q.cs else st.expOffset) ≠ e &&& L2E_OFFSET_MASK
  · simp only [if_pos hbr]; exact ⟨Nat.le_refl _, hold⟩
  simp only [if_neg hbr]
  -- entry `i` passed the offset check: its cluster is the `i`-th after `off0`
  have hexp : Chk t0 → (if st.checkOffset = true then st.expOffset + q.cs else st.expOffset) = off0 + i * q.cs ∧
      e &&& L2E_OFFSET_MASK = off0 + i * q.cs := by
    intro hchk
    have hco : st.checkOffset = true := hck.mpr hchk
    have : (if st.checkOffset = true then st.expOffset + q.cs else st.expOffset) = off0 + i * q.cs := by
      rw [if_pos hco, hoff hchk]
    exact ⟨this, by rw [← this]; exact (Classical.not_not.mp fun hh => hbr ⟨hco, hh⟩).symm⟩
  have hall : ∀ p, scIndex ≤ p → p < i * q.scPer + n → Good q l2Offset l2Index t0 off0 p := by
    intro p h1 h2
    by_cases hlt : p < i * q.scPer
    · exact hP p h1 hlt
    have hdiv : p / q.scPer = i := Nat.div_eq_of_lt_le (by omega) (by rw [Nat.add_mul, Nat.one_mul]; omega)
    have hmod : p % q.scPer = p - i * q.scPer := by
      have := Nat.div_add_mod p q.scPer
      rw [hdiv, Nat.mul_comm] at this; omega
    exact ⟨e, bm, by rw [hdiv]; exact hE, by rw [hmod, ← hteq]; exact hrng _ (Nat.zero_le _) (by omega),
      fun hchk => by rw [hdiv]; exact (hexp hchk).2⟩
  by_cases hlast : n < q.scPer
  · rw [if_pos hlast]
    exact ⟨Nat.le_add_right _ _, fun p h1 h2 => hall p h1 (by omega)⟩
  · rw [if_neg hlast]
    refine ⟨Nat.le_add_right _ _, by omega, ?_, hty, hck,
      fun hchk => by rw [(hexp hchk).1, Nat.add_mul, Nat.one_mul, Nat.add_assoc], ?_⟩
    · show st.count + n + scIndex = (i + 1) * q.scPer
      rw [Nat.add_mul, Nat.one_mul]; omega
    · intro p h1 h2
      exact hall p h1 (by rw [Nat.add_mul, Nat.one_mul] at h2; omega)

theorem countLoop_tail (q : QCow2) (l2Offset l2Index scIndex t0 off0 : Nat) :
    ∀ k i (st : CC) cnt, CountInv q l2Offset l2Index scIndex t0 off0 i st →
      q.countLoop l2Offset l2Index scIndex k i st = .ok cnt →
      st.count ≤ cnt ∧ ∀ p, scIndex ≤ p → p < scIndex + cnt → Good q l2Offset l2Index t0 off0 p := by
  intro k
  induction k with
  | zero =>
    intro i st cnt inv h
    cases h
    exact ⟨Nat.le_refl _, fun p h1 h2 => inv.good p h1 (by have := inv.count; omega)⟩
  | succ k ih =>
    intro i st cnt inv h
    rw [countLoop_succ] at h
    obtain ⟨⟨e, bm⟩, hE, h⟩ := bind_ok h
    obtain ⟨⟨t, n⟩, hR, h⟩ := bind_ok h
    have hi0 : ¬ i = 0 := by have := inv.pos; omega
    rw [if_neg hi0] at hR
    have hstep := inv.preserved hE hR
    cases hnx : CC.next q scIndex i st e t n with
    | inl c =>
      rw [hnx] at h hstep
      cases h
      exact hstep
    | inr st' =>
      rw [hnx] at h hstep
      obtain ⟨h1, h2⟩ := ih (i + 1) st' cnt hstep.2 h
      exact ⟨Nat.le_trans hstep.1 h1, h2⟩

/-- a compressed run ends with its cluster: `run_mapped` needs that to read it from one inflated cluster.  (C01.run_uniform) -/
theorem countLoop_sound (q : QCow2) (l2Offset l2Index scIndex k cnt : Nat) (hsc : scIndex < q.scPer)
    (h : q.countLoop l2Offset l2Index scIndex (k + 1) 0 ⟨0, 0, 0, false⟩ = .ok cnt) :
    ∃ e bm t0, q.l2Entry l2Offset l2Index = .ok (e, bm) ∧ q.subclusterType e bm scIndex = .ok t0 ∧
      1 ≤ cnt ∧ (t0 = SC_COMPRESSED → scIndex + cnt ≤ q.scPer) ∧
      ∀ p, scIndex ≤ p → p < scIndex + cnt → Good q l2Offset l2Index t0 (e &&& L2E_OFFSET_MASK) p := by
  rw [countLoop_succ] at h
  obtain ⟨⟨e, bm⟩, hE, h⟩ := bind_ok h
  obtain ⟨⟨t, n⟩, hR, h⟩ := bind_ok h
  rw [if_pos rfl] at hR
  obtain ⟨hn1, hn2, hty, hrng⟩ := rangeType_sound q e bm scIndex t n hsc hR
  have hfirst : ∀ p, scIndex ≤ p → p < scIndex + n → Good q l2Offset l2Index t (e &&& L2E_OFFSET_MASK) p := by
    intro p h1 h2
    have hdiv : p / q.scPer = 0 := Nat.div_eq_of_lt (by omega)
    have hmod : p % q.scPer = p := Nat.mod_eq_of_lt (by omega)
    exact ⟨e, bm, by rw [hdiv]; exact hE, by rw [hmod]; exact hrng p h1 h2, fun _ => by rw [hdiv]; simp⟩
  refine ⟨e, bm, t, hE, hty, ?_⟩
  unfold CC.next at h
  rw [if_pos rfl] at h
  by_cases hcomp : t = SC_COMPRESSED
  · rw [if_pos hcomp] at h
    cases h
    exact ⟨hn1, fun _ => hn2, hfirst⟩
  rw [if_neg hcomp] at h
  by_cases hlast : scIndex + n < q.scPer
  · rw [if_pos hlast] at h
    cases h
    exact ⟨hn1, fun hc => absurd hc hcomp, hfirst⟩
  · rw [if_neg hlast] at h
    have := countLoop_tail q l2Offset l2Index scIndex t (e &&& L2E_OFFSET_MASK) k 1 _ cnt
      ⟨Nat.le_refl _, by show n + scIndex = 1 * q.scPer; omega, rfl, decide_eq_true_iff, fun _ => by rw [Nat.one_mul],
        fun p h1 h2 => hfirst p h1 (by omega)⟩ h
    exact ⟨by have := this.1; simp only at this; omega, fun hc => absurd hc hcomp, this.2⟩

/-- the body of the `while length > 0` loop of `_yield_runs`: (bytes consumed, run).  A verbatim copy of the loop body of
    `QCow2.yieldRuns` in Hv/Qcow2.lean: `yieldRuns_succ` below is `rfl` only as long as the two agree. -/
def QCow2.step (q : QCow2) (offset length : Nat) : Except Err (Nat × Run) :=
    let l1Index := offset / 2 ^ (q.l2Bits + q.clusterBits)
    let l2Index := (offset / q.cs) % q.l2Size
    let scIndex := (offset / 2 ^ q.scBits) % q.scPer
    let oic := offset % q.cs
    let bytesNeeded := min (length + oic) ((q.l2Size - l2Index) * q.cs)
    let unallocRun : Except Err (Nat × Run) := .ok (bytesNeeded - oic, ⟨SC_UNALLOC_PLAIN, offset, 0, bytesNeeded - oic⟩)
    (do
      let l1 ← q.l1
      if l1Index ≥ l1.size then unallocRun else do
      let l1e ← (match l1[l1Index]? with | some x => .ok x | none => .error .index)
      let l2Offset := l1e &&& L1E_OFFSET_MASK
      if l2Offset = 0 then unallocRun else do
      let (e, bm) ← q.l2Entry l2Offset l2Index
      let t ← q.subclusterType e bm scIndex
      let host := if t = SC_COMPRESSED then e &&& L2E_COMPRESSED_OFFSET_SIZE_MASK
                  else if NORMAL_SUBCLUSTER_TYPES.contains t then (e &&& L2E_OFFSET_MASK) + oic else 0
      let nbClusters := (bytesNeeded + (q.cs - 1)) / q.cs
      let scCount ← q.countLoop l2Offset l2Index scIndex nbClusters 0 ⟨0, 0, 0, false⟩
      let bytesAvailable := (scCount + scIndex) * 2 ^ q.scBits
      let readCount := min bytesAvailable bytesNeeded - oic
      pure (readCount, ⟨t, offset, host, readCount⟩))

theorem yieldRuns_succ (q : QCow2) (fuel offset length : Nat) :
    q.yieldRuns (fuel + 1) offset length =
      (if length = 0 then .ok [] else do
        let (n, run) ← q.step offset length
        if n = 0 then .error .nonTermination else do
        let rest ← q.yieldRuns fuel (offset + n) (length - n)
        .ok (run :: rest)) := rfl

/-- bytes of the request that lie in the current L2 table, counted from the start of the cluster -/
def QCow2.bn (q : QCow2) (offset length : Nat) : Nat :=
  min (length + offset % q.cs) ((q.l2Size - offset / q.cs % q.l2Size) * q.cs)

/-- the table walk behind a mapped run at `offset`: the entry `l1e` of the L1 table `l1`, the L2 entry `(e, bm)` of the first
    cluster, and `cnt` good sub-clusters of type `t` from the sub-cluster of `offset` on -/
structure MappedRun (q : QCow2) (l1 : Array Nat) (offset l1e e bm t cnt : Nat) : Prop where
  idx : l1[offset / 2 ^ (q.l2Bits + q.clusterBits)]? = some l1e
  l2 : l1e &&& L1E_OFFSET_MASK ≠ 0
  entry : q.l2Entry (l1e &&& L1E_OFFSET_MASK) (offset / q.cs % q.l2Size) = .ok (e, bm)
  good : ∀ p, offset / 2 ^ q.scBits % q.scPer ≤ p → p < offset / 2 ^ q.scBits % q.scPer + cnt →
    Good q (l1e &&& L1E_OFFSET_MASK) (offset / q.cs % q.l2Size) t (e &&& L2E_OFFSET_MASK) p

/-- what one iteration returns -/
inductive StepInfo (q : QCow2) (offset length n : Nat) (run : Run) : Prop where
  | unalloc (l1 : Array Nat)
      (hl1 : q.l1 = .ok l1)
      (hidx : l1.size ≤ offset / 2 ^ (q.l2Bits + q.clusterBits) ∨
        ∃ l1e, l1[offset / 2 ^ (q.l2Bits + q.clusterBits)]? = some l1e ∧ l1e &&& L1E_OFFSET_MASK = 0)
      (hrun : run = ⟨SC_UNALLOC_PLAIN, offset, 0, n⟩)
      (hn : n = q.bn offset length - offset % q.cs)
  | mapped (l1 : Array Nat) (l1e e bm t cnt : Nat)
      (hl1 : q.l1 = .ok l1)
      (m : MappedRun q l1 offset l1e e bm t cnt)
      (hT : q.subclusterType e bm (offset / 2 ^ q.scBits % q.scPer) = .ok t)
      (hrun : run = ⟨t, offset,
        (if t = SC_COMPRESSED then e &&& L2E_COMPRESSED_OFFSET_SIZE_MASK
         else if NORMAL_SUBCLUSTER_TYPES.contains t then (e &&& L2E_OFFSET_MASK) + offset % q.cs else 0), n⟩)
      (hcnt : 1 ≤ cnt)
      (hcomp : t = SC_COMPRESSED → offset / 2 ^ q.scBits % q.scPer + cnt ≤ q.scPer)
      (hn : n = min ((cnt + offset / 2 ^ q.scBits % q.scPer) * 2 ^ q.scBits) (q.bn offset length) - offset % q.cs)

theorem bn_bounds (q : QCow2) (g : Geom q) (offset length : Nat) (hl : 0 < length) :
    offset % q.cs < q.bn offset length ∧ q.bn offset length ≤ length + offset % q.cs ∧
    q.bn offset length ≤ (q.l2Size - offset / q.cs % q.l2Size) * q.cs := by
  have hcs := cs_pos q
  have h1 := Nat.mod_lt offset hcs
  have h2 := Nat.mod_lt (offset / q.cs) g.l2_pos
  unfold QCow2.bn
  have : q.cs ≤ (q.l2Size - offset / q.cs % q.l2Size) * q.cs :=
    Nat.le_mul_of_pos_left _ (by omega)
  omega

theorem step_info (q : QCow2) (g : Geom q) (offset length n : Nat) (run : Run) (hl : 0 < length)
    (h : q.step offset length = .ok (n, run)) : StepInfo q offset length n run := by
  have hcs := cs_pos q
  obtain ⟨hb1, hb2, hb3⟩ := bn_bounds q g offset length hl
  unfold QCow2.step at h
  obtain ⟨l1, hl1, h⟩ := bind_ok h
  by_cases hidx : offset / 2 ^ (q.l2Bits + q.clusterBits) ≥ l1.size
  · rw [if_pos hidx] at h
    cases h
    exact .unalloc l1 hl1 (Or.inl hidx) rfl rfl
  rw [if_neg hidx] at h
  obtain ⟨l1e, hl1e, h⟩ := bind_ok h
  have hl1e : l1[offset / 2 ^ (q.l2Bits + q.clusterBits)]? = some l1e := by
    cases hx : l1[offset / 2 ^ (q.l2Bits + q.clusterBits)]? <;> rw [hx] at hl1e <;> cases hl1e
    rfl
  by_cases hz : l1e &&& L1E_OFFSET_MASK = 0
  · rw [if_pos hz] at h
    cases h
    exact .unalloc l1 hl1 (Or.inr ⟨l1e, hl1e, hz⟩) rfl rfl
  rw [if_neg hz] at h
  obtain ⟨⟨e, bm⟩, hE, h⟩ := bind_ok h
  obtain ⟨t, hT, h⟩ := bind_ok h
  obtain ⟨cnt, hC, h⟩ := bind_ok h
  cases h
  obtain ⟨k, hk⟩ : ∃ k, (q.bn offset length + (q.cs - 1)) / q.cs = k + 1 :=
    ⟨(q.bn offset length + (q.cs - 1)) / q.cs - 1, by
      have := Nat.div_pos (by omega : q.cs ≤ q.bn offset length + (q.cs - 1)) hcs; omega⟩
  unfold QCow2.bn at hk
  rw [hk] at hC
  obtain ⟨e', bm', t', hE', hT', hc1, hc2, hc3⟩ := countLoop_sound q _ _ _ k cnt (Nat.mod_lt _ (scPer_pos q)) hC
  rw [hE] at hE'
  cases hE'
  rw [hT] at hT'
  cases hT'
  exact .mapped l1 l1e e bm t cnt hl1 ⟨hl1e, hz, hE, hc3⟩ hT rfl hc1 hc2 rfl

theorem oic_sc (q : QCow2) (g : Geom q) (offset : Nat) :
    offset % q.cs / 2 ^ q.scBits = offset / 2 ^ q.scBits % q.scPer := by
  rw [g.bits, ← g.per_size]; exact Nat.mod_mul_left_div_self _ _ _

/-- byte `j` of a mapped run, before the end of the `cnt` counted sub-clusters: its sub-cluster is one of them -/
theorem MappedRun.good_at {q : QCow2} (g : Geom q) {l1 : Array Nat} {offset l1e e bm t cnt : Nat}
    (m : MappedRun q l1 offset l1e e bm t cnt) (j : Nat)
    (hj : offset % q.cs + j < (cnt + offset / 2 ^ q.scBits % q.scPer) * 2 ^ q.scBits) :
    Good q (l1e &&& L1E_OFFSET_MASK) (offset / q.cs % q.l2Size) t (e &&& L2E_OFFSET_MASK)
      ((offset % q.cs + j) / 2 ^ q.scBits) := by
  refine m.good _ ?_ (Nat.div_lt_of_lt_mul ?_)
  · rw [← oic_sc q g offset]; exact Nat.div_le_div_right (Nat.le_add_right _ _)
  · rw [Nat.mul_comm, Nat.add_comm _ cnt]; exact hj

theorem step_progress (q : QCow2) (g : Geom q) (offset length n : Nat) (run : Run) (hl : 0 < length)
    (h : q.step offset length = .ok (n, run)) :
    1 ≤ n ∧ n ≤ length ∧ run.readOffset = offset ∧ run.count = n := by
  obtain ⟨hb1, hb2, hb3⟩ := bn_bounds q g offset length hl
  cases step_info q g offset length n run hl h with
  | unalloc l1 hl1 hidx hrun hn => subst hrun; exact ⟨by omega, by omega, rfl, rfl⟩
  | mapped l1 l1e e bm t cnt hl1 m hT hrun hcnt hcomp hn =>
    subst hrun
    -- `offset` lies in the first of the `cnt ≥ 1` sub-clusters counted
    have h1 : offset % q.cs < (cnt + offset / 2 ^ q.scBits % q.scPer) * 2 ^ q.scBits :=
      Nat.lt_mul_of_div_lt (by rw [oic_sc q g offset]; omega) (Nat.two_pow_pos _)
    exact ⟨by omega, by omega, rfl, rfl⟩

theorem l1Index_eq (q : QCow2) (g : Geom q) (o : Nat) : o / 2 ^ (q.l2Bits + q.clusterBits) = o / q.cs / q.l2Size := by
  rw [g.l1sh, Nat.div_div_eq_div_mul, Nat.mul_comm]

theorem table_arith (q : QCow2) (g : Geom q) (offset i : Nat) (hi : offset / q.cs % q.l2Size + i < q.l2Size) :
    (offset / q.cs + i) / q.l2n = offset / 2 ^ (q.l2Bits + q.clusterBits) ∧
    (offset / q.cs + i) % q.l2n = offset / q.cs % q.l2Size + i := by
  have hc : offset / q.cs + i = q.l2Size * (offset / q.cs / q.l2Size) + (offset / q.cs % q.l2Size + i) := by
    have := Nat.div_add_mod (offset / q.cs) q.l2Size; omega
  rw [← g.l2, hc, Nat.mul_add_div g.l2_pos, Nat.mul_add_mod, Nat.div_eq_of_lt hi, Nat.mod_eq_of_lt hi, Nat.add_zero,
    l1Index_eq q g]
  exact ⟨rfl, rfl⟩

/-- the coordinates of byte `offset + j` in terms of those of `offset`, `x = offset % cs + j` being its distance
    from the start of the first cluster -/
structure ClusterArith (q : QCow2) (offset j : Nat) : Prop where
  cluster : (offset + j) / q.cs = offset / q.cs + (offset % q.cs + j) / q.cs
  inCluster : (offset + j) % q.cs = (offset % q.cs + j) % q.cs
  l2_lt : offset / q.cs % q.l2Size + (offset % q.cs + j) / q.cs < q.l2Size
  l1 : (offset / q.cs + (offset % q.cs + j) / q.cs) / q.l2n = offset / 2 ^ (q.l2Bits + q.clusterBits)
  l2 : (offset / q.cs + (offset % q.cs + j) / q.cs) % q.l2n = offset / q.cs % q.l2Size + (offset % q.cs + j) / q.cs
  sc : (offset + j) / 2 ^ q.scBits % q.scPer = (offset % q.cs + j) / 2 ^ q.scBits % q.scPer
  scCluster : (offset % q.cs + j) / 2 ^ q.scBits / q.scPer = (offset % q.cs + j) / q.cs

theorem cluster_arith (q : QCow2) (g : Geom q) (offset j : Nat)
    (hx : offset % q.cs + j < (q.l2Size - offset / q.cs % q.l2Size) * q.cs) : ClusterArith q offset j := by
  have hcs := cs_pos q
  have hS : 0 < 2 ^ q.scBits := Nat.two_pow_pos _
  have hoff : offset + j = q.cs * (offset / q.cs) + (offset % q.cs + j) := by
    have := Nat.div_add_mod offset q.cs; omega
  have hi : offset / q.cs % q.l2Size + (offset % q.cs + j) / q.cs < q.l2Size := by
    have : (offset % q.cs + j) / q.cs < q.l2Size - offset / q.cs % q.l2Size :=
      Nat.div_lt_of_lt_mul (by rw [Nat.mul_comm]; exact hx)
    have := Nat.mod_lt (offset / q.cs) g.l2_pos
    omega
  obtain ⟨t1, t2⟩ := table_arith q g offset _ hi
  refine ⟨?_, ?_, hi, t1, t2, ?_, ?_⟩
  · rw [hoff, Nat.mul_add_div hcs]
  · rw [hoff, Nat.mul_add_mod]
  · have : offset + j = 2 ^ q.scBits * (q.scPer * (offset / q.cs)) + (offset % q.cs + j) := by
      rw [← Nat.mul_assoc, Nat.mul_comm (2 ^ q.scBits), g.bits, g.per_size]; exact hoff
    rw [this, Nat.mul_add_div hS, Nat.mul_add_mod]
  · rw [Nat.div_div_eq_div_mul, g.bits, Nat.mul_comm, g.per_size]

/-! `_nt`: the function never raises the fuel error `.nonTermination`; the chain ends in `step_nt`, which
    C01.yieldRuns_progress (and through it C11) uses -/

theorem l2Entry_nt (q : QCow2) (l2Offset idx : Nat) : q.l2Entry l2Offset idx ≠ .error .nonTermination :=
  ite_ne_error nofun (ite_ne_error nofun (ite_ne_error (ite_ne_error nofun nofun) nofun))

theorem subclusterType_nt (q : QCow2) (e bm s : Nat) : q.subclusterType e bm s ≠ .error .nonTermination := by
  cases hs : q.sub with
  | false =>
    rw [subclusterType_std_eq q hs]; nofun
  | true =>
    rw [subclusterType_sub q hs]
    cases q.clusterType e with
    | normal => exact ite_ne_error nofun (ite_ne_error nofun (ite_ne_error nofun nofun))
    | unallocated => exact ite_ne_error nofun (ite_ne_error nofun nofun)
    | _ => intro h; cases h

theorem countLoop_nt (q : QCow2) (l2Offset l2Index scIndex : Nat) :
    ∀ k i st, q.countLoop l2Offset l2Index scIndex k i st ≠ .error .nonTermination := by
  intro k
  induction k with
  | zero => intro i st; nofun
  | succ k ih =>
    intro i st
    rw [countLoop_succ]
    refine bind_ne_error (l2Entry_nt q _ _) fun eb _ => bind_ne_error
      (bind_ne_error (subclusterType_nt q _ _ _) fun _ _ =>
        ite_ne_error nofun (ite_ne_error nofun (ite_ne_error nofun (ite_ne_error nofun nofun)))) fun tn _ => ?_
    cases CC.next q scIndex i st eb.1 tn.1 tn.2 with
    | inl c => nofun
    | inr st' => exact ih _ _

theorem step_nt (q : QCow2) (hl1 : q.l1 ≠ .error .nonTermination) (offset length : Nat) :
    q.step offset length ≠ .error .nonTermination := by
  unfold QCow2.step
  refine bind_ne_error hl1 fun l1 _ => ite_ne_error nofun (bind_ne_error ?_ fun l1e _ => ite_ne_error nofun ?_)
  · split <;> nofun
  · exact bind_ne_error (l2Entry_nt q _ _) fun eb _ => bind_ne_error (subclusterType_nt q _ _ _) fun t _ =>
      bind_ne_error (countLoop_nt q _ _ _ _ _ _) fun c _ => nofun

/-- the runs are consecutive, non-empty and cover exactly `[off, off + len)` -/
def Tiles : List Run → Nat → Nat → Prop
  | [], _, len => len = 0
  | r :: rs, off, len => r.readOffset = off ∧ 1 ≤ r.count ∧ r.count ≤ len ∧ Tiles rs (off + r.count) (len - r.count)

/-- induction over `_yield_runs` with enough fuel.  A run is never empty (`step_progress`), so the loop's own error
    is never raised and the fuel `len` suffices. -/
theorem yieldRuns_induct (q : QCow2) (g : Geom q) {P : Nat → Nat → Except Err (List Run) → Prop}
    (done : ∀ off, P off 0 (.ok []))
    (fail : ∀ off len e, 0 < len → q.step off len = .error e → P off len (.error e))
    (next : ∀ off len n run r, 0 < len → q.step off len = .ok (n, run) → 1 ≤ n → n ≤ len →
      run.readOffset = off → run.count = n →
      P (off + n) (len - n) r → P off len (r.bind fun rest => .ok (run :: rest))) :
    ∀ fuel off len, len ≤ fuel → P off len (q.yieldRuns fuel off len) := by
  intro fuel
  induction fuel with
  | zero =>
    intro off len h
    cases Nat.le_zero.mp h
    exact done off
  | succ fuel ih =>
    intro off len hf
    rw [yieldRuns_succ]
    by_cases hl : len = 0
    · rw [if_pos hl, hl]; exact done off
    rw [if_neg hl]
    cases hs : q.step off len with
    | error e => exact fail off len e (by omega) hs
    | ok nr =>
      obtain ⟨n, run⟩ := nr
      obtain ⟨h1, h2, h3, h4⟩ := step_progress q g off len n run (by omega) hs
      simp only [bind, Except.bind]
      rw [if_neg (by omega)]
      exact next off len n run _ (by omega) hs h1 h2 h3 h4 (ih (off + n) (len - n) (by omega))

theorem cb_ge_of_subcluster (cb : Nat) (h : ¬ 2 ^ cb / 32 < 2 ^ 9) : 14 ≤ cb := by
  apply Nat.le_of_not_lt
  intro hlt
  have : 2 ^ cb ≤ 2 ^ 13 := Nat.pow_le_pow_right (by decide) (by omega)
  exact h (by omega)

theorem gate_none (h : Hdr) (hg : h.gate = none) :
    9 ≤ h.clusterBits ∧ h.clusterBits ≤ 21 ∧ (h.sub = true → 14 ≤ h.clusterBits) := by
  unfold Hdr.gate at hg
  obtain ⟨_, hg⟩ := none_of_gate hg
  obtain ⟨_, hg⟩ := none_of_gate hg
  obtain ⟨hcb, hg⟩ := none_of_gate hg
  obtain ⟨_, hg⟩ := none_of_gate hg
  obtain ⟨hsz, _⟩ := none_of_gate hg
  have c1 : MIN_CLUSTER_BITS = 9 := rfl
  have c2 : MAX_CLUSTER_BITS = 21 := rfl
  rw [c1, c2] at hcb
  rw [c1] at hsz
  refine ⟨by omega, by omega, fun hs => ?_⟩
  have : h.scPer = 32 := by simp [Hdr.scPer, hs, QCOW_EXTL2_SUBCLUSTERS_PER_CLUSTER]
  rw [this] at hsz
  exact cb_ge_of_subcluster _ hsz

end Hv.Qcow2
