/-
  `DiskDescriptor.parse` on a whole multi-line text: the text is cut at every `\n` (`parse_joinLines`), each line
  contributes independently, the extents come back in the order of their lines (`fold_extents`) and a setting has the value
  of its last assignment (`dictGet_dictSet`, `fold_dicts`, `parentLink_joinLines`); a printed extent line is one such line
  (`lineExtent_print`, `print_no_nl`).
-/
import HvProofs.VmdkDescRT
namespace Hv.VmdkDesc
open Hv Hv.Regex

/-- `"\n".join(lines)` -/
def joinLines : List Str → Str
  | [] => []
  | [l] => l
  | l :: l' :: ls => l ++ '\n' :: joinLines (l' :: ls)

/-- what one physical line contributes to the extent list of `DiskDescriptor.parse` -/
def lineExtent (rawLine : Str) : Option Extent :=
  let line := strip rawLine
  if line.isEmpty ∨ startsWith line ['#'] then none
  else if Extracted.vmdk.EXTENT_PREFIXES.any (fun p => startsWith line p.toList) then parseExtentLine line
  else none

/-- what one physical line assigns: `(is a ddb.* key, key, value)` -/
def lineSetting (rawLine : Str) : Option (Bool × Str × Str) :=
  let line := strip rawLine
  if line.isEmpty ∨ startsWith line ['#'] then none
  else if Extracted.vmdk.EXTENT_PREFIXES.any (fun p => startsWith line p.toList) then none
  else
    let (setting, _, value) := partition '=' line
    let setting := strip setting
    some (startsWith setting "ddb.".toList, setting, stripChars [' ', '"'] value)

/-- the value a line assigns to key `k` of the dictionary `ddb` / `attr` -/
def lineAssigns (ddb : Bool) (k : Str) (rawLine : Str) : Option Str :=
  match lineSetting rawLine with
  | some (b, k', v) => if b = ddb ∧ k' = k then some v else none
  | none => none

/-- one step of the loop of `DiskDescriptor.parse` -/
def parseStep (d : Desc) (rawLine : Str) : Desc :=
  let line := strip rawLine
  if line.isEmpty ∨ startsWith line ['#'] then d
  else if Extracted.vmdk.EXTENT_PREFIXES.any (fun p => startsWith line p.toList) then
    match parseExtentLine line with
    | none => d
    | some e => { d with extents := d.extents ++ [e], sectors := d.sectors + e.sectors }
  else
    let (setting, _, value) := partition '=' line
    let setting := strip setting
    let value := stripChars [' ', '"'] value
    if startsWith setting "ddb.".toList then { d with ddb := dictSet d.ddb setting value }
    else { d with attr := dictSet d.attr setting value }

theorem parse_eq_fold (text : Str) : parse text = (splitOn '\n' text).foldl parseStep ⟨[], [], [], 0⟩ := rfl

theorem splitOn_ne_nil (sep : Char) (s : Str) : splitOn sep s ≠ [] := by
  induction s with
  | nil => simp [splitOn]
  | cons c cs ih =>
    unfold splitOn
    cases h : splitOn sep cs with
    | nil => simp
    | cons a t => by_cases hc : c = sep <;> simp [hc]

theorem splitOn_cons (sep c : Char) (cs : Str) : splitOn sep (c :: cs) =
    (match splitOn sep cs with
     | [] => [[]]
     | h :: t => if c = sep then [] :: h :: t else (c :: h) :: t) := by
  rw [splitOn]
  cases splitOn sep cs <;> rfl

theorem splitOn_sep_cons (sep : Char) (r : Str) : splitOn sep (sep :: r) = [] :: splitOn sep r := by
  rw [splitOn_cons]
  cases hr : splitOn sep r with
  | nil => exact absurd hr (splitOn_ne_nil sep r)
  | cons a t => simp

theorem splitOn_append (sep : Char) (l r : Str) (h : sep ∉ l) :
    splitOn sep (l ++ r) = (l ++ (splitOn sep r).headD []) :: (splitOn sep r).tail := by
  induction l with
  | nil =>
    cases hr : splitOn sep r with
    | nil => exact absurd hr (splitOn_ne_nil sep r)
    | cons a t => exact hr
  | cons c cs ih =>
    have hc : c ≠ sep := fun e => h (by simp [e])
    rw [List.cons_append, splitOn_cons, ih fun e => h (by simp [e])]
    simp [hc]

theorem splitOn_joinLines (lines : List Str) (hne : lines ≠ []) (h : ∀ l ∈ lines, '\n' ∉ l) :
    splitOn '\n' (joinLines lines) = lines := by
  induction lines with
  | nil => exact absurd rfl hne
  | cons l ls ih =>
    cases ls with
    | nil => simpa [splitOn, joinLines] using splitOn_append '\n' l [] (h l (by simp))
    | cons l' ls' =>
      show splitOn '\n' (l ++ '\n' :: joinLines (l' :: ls')) = _
      rw [splitOn_append _ l _ (h l (by simp)), splitOn_sep_cons, ih (by simp) (fun x hx => h x (by simp [hx]))]
      simp

theorem parse_joinLines (lines : List Str) (hne : lines ≠ []) (h : ∀ l ∈ lines, '\n' ∉ l) :
    parse (joinLines lines) = lines.foldl parseStep ⟨[], [], [], 0⟩ := by
  rw [parse_eq_fold, splitOn_joinLines lines hne h]

theorem parseStep_cases (d : Desc) (l : Str) :
    (lineSetting l = none ∧ parseStep d l = match lineExtent l with
      | some e => { d with extents := d.extents ++ [e], sectors := d.sectors + e.sectors }
      | none => d) ∨
    (lineExtent l = none ∧ ∃ b k v, lineSetting l = some (b, k, v) ∧
      parseStep d l = if b then { d with ddb := dictSet d.ddb k v } else { d with attr := dictSet d.attr k v }) := by
  by_cases h1 : (strip l).isEmpty ∨ startsWith (strip l) ['#']
  · simp only [parseStep, lineExtent, lineSetting, if_pos h1]
    exact .inl ⟨trivial, trivial⟩
  · by_cases h2 : Extracted.vmdk.EXTENT_PREFIXES.any (fun p => startsWith (strip l) p.toList) = true
    · simp only [parseStep, lineExtent, lineSetting, if_neg h1, if_pos h2]
      exact .inl ⟨trivial, by cases parseExtentLine (strip l) <;> rfl⟩
    · simp only [parseStep, lineExtent, lineSetting, if_neg h1, if_neg h2]
      exact .inr ⟨trivial, _, _, _, rfl, rfl⟩

theorem parseStep_extents (d : Desc) (l : Str) :
    (parseStep d l).extents = d.extents ++ (lineExtent l).toList ∧
    (parseStep d l).sectors = d.sectors + ((lineExtent l).toList.map (·.sectors)).sum := by
  rcases parseStep_cases d l with ⟨-, h⟩ | ⟨he, b, k, v, -, h⟩
  · rw [h]; cases lineExtent l <;> simp
  · rw [h, he]; cases b <;> simp

theorem fold_extents (lines : List Str) (d : Desc) :
    (lines.foldl parseStep d).extents = d.extents ++ lines.filterMap lineExtent ∧
    (lines.foldl parseStep d).sectors = d.sectors + ((lines.filterMap lineExtent).map (·.sectors)).sum := by
  induction lines generalizing d with
  | nil => simp
  | cons l ls ih =>
    obtain ⟨h1, h2⟩ := parseStep_extents d l
    obtain ⟨i1, i2⟩ := ih (parseStep d l)
    rw [List.foldl_cons, i1, i2, h1, h2]
    cases hl : lineExtent l with
    | none => simp [hl]
    | some e => simp [hl, Nat.add_assoc]

/-! ### a printed extent line is recognised as an extent line and contains no line feed -/

/-- a printed extent line survives `strip`, is neither empty nor a comment, begins with one of the three prefixes the loop
    looks for, and parses to the extent it was printed from -/
theorem lineExtent_print (e : ExtentSpec) (h : wfExtent e = true) :
    lineExtent (printExtentLine e) = some e.toExtent := by
  have hlast : LastOk (printExtentLine e) := raw_line e ▸ lastOk_valid e.raw (wf_valid e h).1
  have hacc : e.access ∈ accessWords := by
    simp only [wfExtent, Bool.and_eq_true] at h
    simpa using h.1.1.1.1.1.1
  obtain ⟨rest, hrest⟩ : ∃ rest, printExtentLine e = e.access ++ ' ' :: rest := ⟨_, rfl⟩
  simp only [accessWords, List.mem_cons, List.mem_nil_iff, or_false] at hacc
  have hstrip : strip (printExtentLine e) = printExtentLine e := by
    apply strip_id _ _ hlast
    intro c hc
    rw [hrest] at hc
    rcases hacc with h | h | h <;> rw [h] at hc <;> cases hc <;> decide
  rw [lineExtent, hstrip, extentLine_rt e h]
  rcases hacc with h | h | h <;> rw [hrest, h] <;>
    simp [startsWith, Extracted.vmdk.EXTENT_PREFIXES, List.isPrefixOf]

theorem noNl_of_all (s : Str) (P : Char → Bool) (hP : P '\n' = false) (h : s.all P = true) : '\n' ∉ s := by
  intro hm
  have := List.all_eq_true.mp h _ hm
  rw [hP] at this; cases this

theorem noNl_tok (o : Option Str) (h : tokOk o = true) : '\n' ∉ optPiece (o.map (fun u => (' ', u))) := by
  cases o with
  | none => simp [optPiece]
  | some u =>
    simp only [tokOk, Bool.and_eq_true] at h
    have := noNl_of_all u (fun c => isNsp c && c != '"') (by decide) h.2
    simp [optPiece, this]

theorem print_no_nl (e : ExtentSpec) (h : wfExtent e = true) : '\n' ∉ printExtentLine e := by
  simp only [wfExtent, Bool.and_eq_true] at h
  obtain ⟨⟨⟨⟨⟨⟨ha, hty⟩, hn⟩, hu⟩, hd⟩, hpos⟩, hdig⟩ := h
  have sp : ∀ {s : Str}, (∀ c ∈ s, isSp c = false) → '\n' ∉ s := fun h hm => by
    exact absurd (h _ hm) (by rw [nl_isSp]; decide)
  have hA : '\n' ∉ e.access := sp (accessWords_nonspace _ (by simpa using ha))
  have hT : '\n' ∉ e.type := sp (typeWords_nonspace _ (by simpa using hty)).2
  have hD : ∀ n, '\n' ∉ natDigits n := fun n => noNl_of_all _ isDg (by decide) (natDigits_spec n).2.1
  have hP1 : '\n' ∉ optPiece (e.filename.map (fun n => (' ', '"' :: (n ++ ['"'])))) := by
    cases hf : e.filename with
    | none => simp [optPiece]
    | some n =>
      rw [hf] at hn
      simp only [nameOk, Bool.and_eq_true] at hn
      have := noNl_of_all n (· != '\n') (by decide) hn.1.1.2
      simp [optPiece, this]
  have hP2 : '\n' ∉ optPiece (e.start.map (fun n => (' ', natDigits n))) := by
    cases e.start with
    | none => simp [optPiece]
    | some n => simp [optPiece, hD n]
  unfold printExtentLine
  simp only [List.mem_append, List.mem_cons, not_or]
  exact ⟨hA, by decide, hD _, by decide, hT, hP1, hP2, noNl_tok _ hu, noNl_tok _ hd⟩

/-! ### the settings dictionaries of `DiskDescriptor.parse`: the last assignment of a key wins -/

/-- Python `d[k] = v` followed by `d.get(k')` -/
theorem dictGet_dictSet (d : List (Str × Str)) (k v k' : Str) :
    dictGet (dictSet d k v) k' = if k' = k then some v else dictGet d k' := by
  unfold dictSet dictGet
  split
  · -- the key is there: its entry is replaced in place; for another key the lookup finds what it found before
    rename_i ha
    have hp : ((fun e : Str × Str => decide (e.1 = k')) ∘ fun e => if e.1 = k then (k, v) else e)
        = fun e => if k' = k then decide (e.1 = k) else decide (e.1 = k') := by
      funext e
      by_cases he : e.1 = k <;> by_cases hk : k' = k <;> simp [he, hk, eq_comm (a := k)]
    rw [List.find?_map, hp]
    split
    · obtain ⟨e, hm, he⟩ := List.any_eq_true.mp ha
      cases hf : d.find? (fun e => decide (e.1 = k)) with
      | none => exact absurd he (List.find?_eq_none.mp hf e hm)
      | some x =>
        have := List.find?_some hf
        simp_all
    · rename_i hk
      cases hf : d.find? (fun e => decide (e.1 = k')) with
      | none => rfl
      | some x =>
        have := List.find?_some hf
        have : ¬ x.1 = k := fun e => hk ((of_decide_eq_true this).symm.trans e)
        simp [this]
  · -- a new key goes to the end
    rename_i ha
    rw [List.find?_append]
    split
    · rename_i hk
      subst hk
      rw [List.find?_eq_none.mpr fun x hx hp => ha (List.any_eq_true.mpr ⟨x, hx, hp⟩)]
      simp
    · rename_i hk
      simp [Ne.symm hk]

theorem parseStep_dicts (d : Desc) (l : Str) (k : Str) :
    dictGet (parseStep d l).attr k = (lineAssigns false k l).or (dictGet d.attr k) ∧
    dictGet (parseStep d l).ddb k = (lineAssigns true k l).or (dictGet d.ddb k) := by
  rcases parseStep_cases d l with ⟨hs, h⟩ | ⟨-, b, k', v, hs, h⟩
  · simp only [h, lineAssigns, hs]
    cases lineExtent l <;> exact ⟨rfl, rfl⟩
  · simp only [h, lineAssigns, hs]
    cases b <;> by_cases hk : k = k' <;> simp [dictGet_dictSet, hk, eq_comm]

theorem getLast?_filterMap_cons {α β : Type} (f : α → Option β) (a : α) (l : List α) :
    ((a :: l).filterMap f).getLast? = (l.filterMap f).getLast?.or (f a) := by
  rw [List.filterMap_cons]
  cases f a with
  | none => rw [Option.or_none]
  | some b => rw [List.getLast?_cons, Option.or_some]

theorem fold_dicts (lines : List Str) (d : Desc) (k : Str) :
    dictGet (lines.foldl parseStep d).attr k =
      ((lines.filterMap (lineAssigns false k)).getLast?).or (dictGet d.attr k) ∧
    dictGet (lines.foldl parseStep d).ddb k =
      ((lines.filterMap (lineAssigns true k)).getLast?).or (dictGet d.ddb k) := by
  induction lines generalizing d with
  | nil => exact ⟨rfl, rfl⟩
  | cons l ls ih =>
    obtain ⟨h1, h2⟩ := parseStep_dicts d l k
    obtain ⟨i1, i2⟩ := ih (parseStep d l)
    rw [List.foldl_cons, i1, i2, h1, h2, getLast?_filterMap_cons, getLast?_filterMap_cons, Option.or_assoc,
      Option.or_assoc]
    exact ⟨rfl, rfl⟩

theorem parentLink_joinLines (lines : List Str) (hne : lines ≠ []) (h : ∀ l ∈ lines, '\n' ∉ l) :
    parentLink (parse (joinLines lines)) =
      match (lines.filterMap (lineAssigns false "parentCID".toList)).getLast? with
      | none => .error ()
      | some cid =>
        if cid = "ffffffff".toList then .ok none
        else match (lines.filterMap (lineAssigns false "parentFileNameHint".toList)).getLast? with
          | none => .error ()
          | some hint => .ok (some hint) := by
  have e : ∀ k, dictGet (lines.foldl parseStep ⟨[], [], [], 0⟩).attr k = (lines.filterMap (lineAssigns false k)).getLast? :=
    fun k => by rw [(fold_dicts lines _ k).1, show dictGet [] k = none from rfl, Option.or_none]
  rw [parentLink, parse_joinLines lines hne h, e, e]
  rfl

end Hv.VmdkDesc
