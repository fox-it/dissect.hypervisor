/- The hardened XML parser's flags (C19). -/
import Hv.Xml
namespace Hv.Xml

/-- with the defaults of the installed `defusedxml` the parser raises exactly on the entity events (a DOCTYPE passes) -/
theorem forbidden_defaults (x : Ev) : x.forbidden defaults = x.isEntity := by
  have hd : defaults = ⟨false, true, true⟩ := by decide
  rw [hd]
  cases x <;> rfl

end Hv.Xml
