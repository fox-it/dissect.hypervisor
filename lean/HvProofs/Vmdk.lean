import Hv.Vmdk
import HvProofs.Basic
import HvProofs.Outcome
import HvProofs.Stream
namespace Hv.Vmdk
open Hv Hv.Extracted.vmdk

theorem S_eq : S = 512 := rfl

/-- the parent (if any) serves absolute sectors as the content `pc` -/
def ParentOK (v : Sparse) (pc : Nat → UInt8) : Prop :=
  ∀ p, v.parent = some p → ∀ sector count, p sector count = .ok (slice pc (sector * 512) (count * 512))


/-- the equation inside `block_step`'s last clause, which its statement does not export: a piece that leaves something
    over fills its grain up -/
theorem piece_full (G rs rc n : Nat) (hG : 0 < G) (hn : min rc (G - rs % G) = n) (hr : rc - n ≠ 0) :
    rs % G + n = G := by
  subst hn
  rw [Nat.min_eq_right (Nat.le_of_not_le fun h => hr (by rw [Nat.min_eq_left h, Nat.sub_self])),
    Nat.add_sub_cancel' (Nat.le_of_lt (Nat.mod_lt rs hG))]

theorem piece_bytes (G rs n i : Nat) (hG : 0 < G) (hfit : rs % G + n ≤ G) (hi : i < n * 512) :
    (rs * 512 + i) / 512 / G = rs / G ∧ (rs * 512 + i) / 512 % G = rs % G + i / 512 ∧
    (rs * 512 + i) % 512 = i % 512 ∧ (rs * 512 + i) % (G * 512) = rs % G * 512 + i := by
  have h1 : (rs * 512 + i) / 512 = rs + i / 512 := by
    rw [Nat.add_comm, Nat.add_mul_div_right _ _ (by decide), Nat.add_comm]
  have h2 : i / 512 < n := Nat.div_lt_of_lt_mul (Nat.mul_comm n 512 ▸ hi)
  have h3 := block_arith rs G n (i / 512) hG hfit h2
  refine ⟨by rw [h1]; exact h3.1, by rw [h1]; exact h3.2, by rw [Nat.add_comm, Nat.add_mul_mod_self_right], ?_⟩
  have hlt : rs % G * 512 + i < G * 512 :=
    Nat.lt_of_lt_of_le (Nat.add_lt_add_left hi _) (by rw [← Nat.add_mul]; exact Nat.mul_le_mul_right 512 hfit)
  conv => lhs; rw [← Nat.div_add_mod rs G, Nat.add_mul, Nat.add_assoc, Nat.mul_right_comm, Nat.mul_add_mod]
  exact Nat.mod_eq_of_lt hlt

theorem div_lt_nGrains (v : Sparse) (rs : Nat) (hG : 0 < v.grainSize) (h : rs < v.capacity) :
    rs / v.grainSize < v.nGrains := by
  unfold Sparse.nGrains
  rw [Nat.div_lt_iff_lt_mul hG]
  have := Nat.lt_div_mul_add (a := v.capacity + v.grainSize - 1) hG
  omega

theorem newCur_big (v : Sparse) (gs rs off n : Nat) (h : 1 < gs) :
    v.newCur gs rs off n = ⟨gs, off, n, 0, gs + v.grainSize⟩ := by
  simp only [Sparse.newCur, Nat.ne_of_gt (Nat.lt_trans Nat.zero_lt_one h), Nat.ne_of_gt h, if_false]

/-- the body of the `while` loop of `get_runs` after the lookup gave `gs`, `[rs, rs+n)` being the piece of the request
    inside that grain: the runs that are finished by it, and the new pending run -/
def stepCur (v : Sparse) (gs rs n : Nat) : Option Cur → List Run × Cur
  | none => ([], v.newCur gs rs (rs % v.grainSize) n)
  | some c =>
    if (c.type = 0 ∧ gs = 0) ∨ (c.type = 1 ∧ gs = 1) then ([], { c with count := c.count + n })
    else if c.type > 1 ∧ gs = c.next then ([], { c with next := c.next + v.grainSize, count := c.count + n })
    else ([c.toRun], v.newCur gs rs (rs % v.grainSize) n)

theorem getRunsLoop_zero (v : Sparse) (fuel rs : Nat) (cur : Option Cur) :
    v.getRunsLoop fuel rs 0 cur = .ok (flush cur) := by
  cases fuel <;> simp [Sparse.getRunsLoop]

theorem getRunsLoop_succ (v : Sparse) (fuel rs rc n : Nat) (cur : Option Cur) (hrc : rc ≠ 0) (hG : v.grainSize ≠ 0)
    (hn : min rc (v.grainSize - rs % v.grainSize) = n) :
    v.getRunsLoop (fuel + 1) rs rc cur = (do
      let gs ← v.lookupGrain (rs / v.grainSize)
      let rest ← v.getRunsLoop fuel (rs + n) (rc - n) (some (stepCur v gs rs n cur).2)
      .ok ((stepCur v gs rs n cur).1 ++ rest)) := by
  subst hn
  rw [Sparse.getRunsLoop, if_neg hrc, if_neg hG]
  refine bind_congr_ok fun gs _ => ?_
  cases cur with
  | none => exact (bind_nil_append _).symm
  | some c =>
    simp only [stepCur]
    split
    · exact (bind_nil_append _).symm
    · split
      · exact (bind_nil_append _).symm
      · rfl

/-- what is known about the pending run covering relative sectors `[start, readSector)`;
    `remaining` = sectors still to be looked at -/
def CurOK (v : Sparse) (pc : Nat → UInt8) (start readSector remaining : Nat) : Option Cur → Prop
  | none => start = readSector
  | some c => start + c.count = readSector ∧ (0 < remaining → readSector % v.grainSize = 0) ∧
      (c.type = 0 → c.parent = v.sectorOffset + start ∧
          (v.parent = none → zeros (c.count * 512) = slice (v.guest pc) (start * 512) (c.count * 512)) ∧
          (v.parent.isSome → slice pc ((v.sectorOffset + start) * 512) (c.count * 512)
              = slice (v.guest pc) (start * 512) (c.count * 512))) ∧
      (c.type = 1 → zeros (c.count * 512) = slice (v.guest pc) (start * 512) (c.count * 512)) ∧
      (1 < c.type → v.fh.read ((c.type + c.offset) * 512) (c.count * 512)
            = slice (v.guest pc) (start * 512) (c.count * 512) ∧
          (0 < remaining → c.type + c.offset + c.count = c.next))


/-- The invariant of the accumulator of `get_runs`.  The pending run `c` stands for the sectors `[start, readSector)`
    of the extent (`start + c.count = readSector`), `remaining` sectors of the request are still to be looked at, and as
    long as something remains the run ends on a grain boundary (so the next lookup is for a whole new grain).  What the
    run reads as is said per type: type 0 (no grain) the parent's bytes at `c.parent = sectorOffset + start`, or zeros
    without a parent; type 1 zeros; each time equal to the content `g` on `[start, readSector)`.  For a run of allocated
    grains (`1 < c.type`) the clause is the parameter `A start readSector remaining c`, with the same reading of its
    four arguments.  The statement of C02's `getRuns_merge_sound` uses the instance at `g = v.guest pc`, `A = allocU v pc`,
    written out (`CurOK`). -/
def CurInv (v : Sparse) (pc g : Nat → UInt8) (A : Nat → Nat → Nat → Cur → Prop) (start readSector remaining : Nat) :
    Option Cur → Prop
  | none => start = readSector
  | some c => start + c.count = readSector ∧ (0 < remaining → readSector % v.grainSize = 0) ∧
      (c.type = 0 → c.parent = v.sectorOffset + start ∧
          (v.parent = none → zeros (c.count * 512) = slice g (start * 512) (c.count * 512)) ∧
          (v.parent.isSome → slice pc ((v.sectorOffset + start) * 512) (c.count * 512)
              = slice g (start * 512) (c.count * 512))) ∧
      (c.type = 1 → zeros (c.count * 512) = slice g (start * 512) (c.count * 512)) ∧
      (1 < c.type → A start readSector remaining c)

/-- `[rs, rs+n)` is the piece of the request `[rs, rs+rc)` that lies in the grain of `rs` -/
structure Piece (v : Sparse) (rs rc n : Nat) : Prop where
  cap : rs + rc ≤ v.capacity
  pos : 0 < rc
  len : min rc (v.grainSize - rs % v.grainSize) = n

/-- what the loop needs of the content `g` and of the clause `A`: outside the allocated grains `g` is the parent's
    content or zero; a piece of an allocated grain satisfies `A`; `A` survives the extension by the next grain when its
    table entry is the expected `next`; `A` says what `read_sectors` makes of the run -/
structure RunsOK (v : Sparse) (pc g : Nat → UInt8) (A : Nat → Nat → Nat → Cur → Prop) : Prop where
  gs_pos : 0 < v.grainSize
  lookup : ∀ j, j < v.nGrains → v.lookupGrain j = .ok (v.specGrain j)
  parent : ParentOK v pc
  hole0 : ∀ o, v.specGrain (o / 512 / v.grainSize) = 0 →
    g o = if v.parent.isSome then pc (v.sectorOffset * 512 + o) else 0
  hole1 : ∀ o, v.specGrain (o / 512 / v.grainSize) = 1 → g o = 0
  fresh : ∀ rs rc n, Piece v rs rc n → 1 < v.specGrain (rs / v.grainSize) →
    A rs (rs + n) (rc - n)
      ⟨v.specGrain (rs / v.grainSize), rs % v.grainSize, n, 0, v.specGrain (rs / v.grainSize) + v.grainSize⟩
  grow : ∀ start rs rc n c, Piece v rs rc n → rs % v.grainSize = 0 → start + c.count = rs → 1 < c.type →
    v.specGrain (rs / v.grainSize) = c.next →
    A start rs rc c → A start (rs + n) (rc - n) { c with next := c.next + v.grainSize, count := c.count + n }
  /-- `rs ≤ capacity`: the run lies inside the extent; that is where well-formedness says anything about its grains -/
  data : ∀ start rs rem c, start + c.count = rs → rs ≤ v.capacity → 1 < c.type → A start rs rem c →
    v.runData c.toRun = .ok (slice g (start * 512) (c.count * 512))

section
variable {v : Sparse} {pc g : Nat → UInt8} {A : Nat → Nat → Nat → Cur → Prop} (h : RunsOK v pc g A)
include h

theorem RunsOK.piece_hole (rs n : Nat) (hfit : rs % v.grainSize + n ≤ v.grainSize) :
    (v.specGrain (rs / v.grainSize) = 0 →
      (v.parent = none → zeros (n * 512) = slice g (rs * 512) (n * 512)) ∧
      (v.parent.isSome → slice pc ((v.sectorOffset + rs) * 512) (n * 512) = slice g (rs * 512) (n * 512))) ∧
    (v.specGrain (rs / v.grainSize) = 1 → zeros (n * 512) = slice g (rs * 512) (n * 512)) := by
  have hg : ∀ i, i < n * 512 → (rs * 512 + i) / 512 / v.grainSize = rs / v.grainSize :=
    fun i hi => (piece_bytes v.grainSize rs n i h.gs_pos hfit hi).1
  refine ⟨fun h0 => ⟨fun hpar => ?_, fun hpar => ?_⟩, fun h1 => ?_⟩
  · apply zeros_eq_slice
    intro i hi
    rw [h.hole0 _ (by rw [hg i hi]; exact h0), hpar]
    rfl
  · apply slice_shift
    intro i hi
    rw [h.hole0 _ (by rw [hg i hi]; exact h0), if_pos hpar, Nat.add_mul, Nat.add_assoc]
  · apply zeros_eq_slice
    intro i hi
    exact h.hole1 _ (by rw [hg i hi]; exact h1)

theorem RunsOK.curInv_fresh (rs rc n : Nat) (hp : Piece v rs rc n) :
    CurInv v pc g A rs (rs + n) (rc - n) (some (v.newCur (v.specGrain (rs / v.grainSize)) rs (rs % v.grainSize) n)) := by
  obtain ⟨_, _, hfit, hnext⟩ := block_step h.gs_pos (Nat.ne_of_gt hp.pos) hp.len
  obtain ⟨p0, p1⟩ := h.piece_hole rs n hfit
  have hfresh := h.fresh rs rc n hp
  have hbound : 0 < rc - n → (rs + n) % v.grainSize = 0 := fun hr => (hnext (Nat.ne_of_gt hr)).2
  generalize v.specGrain (rs / v.grainSize) = G at *
  match G with
  | 0 => exact ⟨rfl, hbound, fun _ => ⟨rfl, p0 rfl⟩, nofun, nofun⟩
  | 1 => exact ⟨rfl, hbound, nofun, fun _ => p1 rfl, nofun⟩
  | G + 2 =>
    have hgt : 1 < G + 2 := Nat.le_add_left 2 G
    rw [newCur_big v _ _ _ _ hgt]
    exact ⟨rfl, hbound, nofun, nofun, fun _ => hfresh hgt⟩

theorem RunsOK.curInv_growHole (start rs rc n : Nat) (c : Cur) (hp : Piece v rs rc n)
    (hc : CurInv v pc g A start rs rc (some c))
    (hm : (c.type = 0 ∧ v.specGrain (rs / v.grainSize) = 0) ∨ (c.type = 1 ∧ v.specGrain (rs / v.grainSize) = 1)) :
    CurInv v pc g A start (rs + n) (rc - n) (some { c with count := c.count + n }) := by
  obtain ⟨_, _, hfit, hnext⟩ := block_step h.gs_pos (Nat.ne_of_gt hp.pos) hp.len
  obtain ⟨p0, p1⟩ := h.piece_hole rs n hfit
  obtain ⟨c1, _, c3, c4, _⟩ := hc
  have hend : start + (c.count + n) = rs + n := by rw [← c1, Nat.add_assoc]
  have hbound : 0 < rc - n → (rs + n) % v.grainSize = 0 := fun hr => (hnext (Nat.ne_of_gt hr)).2
  rcases hm with ⟨t0, g0⟩ | ⟨t1, g1⟩
  · obtain ⟨q1, q2, q3⟩ := c3 t0
    obtain ⟨p0n, p0s⟩ := p0 g0
    refine ⟨hend, hbound, fun _ => ⟨q1, fun hpar => ?_, fun hpar => ?_⟩,
      fun t1 => absurd (t0.symm.trans t1) Nat.zero_ne_one, fun hgt => absurd (t0 ▸ hgt : 1 < 0) (Nat.not_lt_zero 1)⟩
    · dsimp only
      rw [Nat.add_mul, zeros_append, q2 hpar, p0n hpar, slice_append, ← Nat.add_mul, c1]
    · dsimp only
      rw [slice_append_mul, q3 hpar, slice_append_mul g, Nat.add_assoc, c1, p0s hpar]
  · refine ⟨hend, hbound, fun t0 => absurd (t1.symm.trans t0) Nat.one_ne_zero, fun _ => ?_,
      fun hgt => absurd (t1 ▸ hgt : 1 < 1) (Nat.lt_irrefl 1)⟩
    dsimp only
    rw [Nat.add_mul, zeros_append, c4 t1, p1 g1, slice_append, ← Nat.add_mul, c1]

theorem RunsOK.curInv_runData (start rs rem : Nat) (c : Cur) (hcap : rs ≤ v.capacity)
    (hc : CurInv v pc g A start rs rem (some c)) :
    v.runData c.toRun = .ok (slice g (start * 512) (c.count * 512)) := by
  obtain ⟨c1, _, h0, h1, h2⟩ := hc
  by_cases t0 : c.type = 0
  · obtain ⟨hpar, hz, hs⟩ := h0 t0
    simp only [Sparse.runData, Cur.toRun, S_eq, t0, if_true]
    cases hparent : v.parent with
    | none => simp only; rw [hz hparent]
    | some p =>
      simp only
      rw [h.parent p hparent, hpar, hs (by simp [hparent])]
  · by_cases t1 : c.type = 1
    · simp only [Sparse.runData, Cur.toRun, S_eq, t1, Nat.one_ne_zero, if_true, if_false]
      rw [h1 t1]
    · have hgt : 1 < c.type := Nat.lt_of_le_of_ne (Nat.pos_of_ne_zero t0) (Ne.symm t1)
      exact h.data start rs rem c c1 hcap hgt (h2 hgt)

theorem RunsOK.curInv_flush (start rs rem : Nat) (cur : Option Cur) (hcap : rs ≤ v.capacity)
    (hc : CurInv v pc g A start rs rem cur) :
    v.execRuns (flush cur) = .ok (slice g (start * 512) ((rs - start) * 512)) := by
  cases cur with
  | none =>
    have : start = rs := hc
    subst this
    simp [Vmdk.flush, Sparse.execRuns]
  | some c =>
    have hd := h.curInv_runData start rs rem c hcap hc
    have : rs - start = c.count := by rw [← hc.1, Nat.add_sub_cancel_left]
    simp only [Vmdk.flush, Sparse.execRuns, hd, bind, Except.bind, this, List.append_nil]

/-- one iteration: the runs it finishes, put in front of runs that read as `bytes`, add the next `k` sectors after the old
    start; the new pending run satisfies the invariant from there -/
theorem RunsOK.curInv_step (start rs rc n : Nat) (cur : Option Cur) (hp : Piece v rs rc n)
    (hc : CurInv v pc g A start rs rc cur) :
    ∃ k, start + k ≤ rs ∧
      (∀ rest bytes, v.execRuns rest = .ok bytes →
        v.execRuns ((stepCur v (v.specGrain (rs / v.grainSize)) rs n cur).1 ++ rest)
          = .ok (slice g (start * 512) (k * 512) ++ bytes)) ∧
      CurInv v pc g A (start + k) (rs + n) (rc - n) (some (stepCur v (v.specGrain (rs / v.grainSize)) rs n cur).2) := by
  have hnone : ∀ rest bytes, v.execRuns rest = .ok bytes →
      v.execRuns ([] ++ rest) = .ok (slice g (start * 512) (0 * 512) ++ bytes) := fun rest bytes hr => by
    rw [Nat.zero_mul, slice_zero]
    exact hr
  cases cur with
  | none =>
    obtain rfl : start = rs := hc
    exact ⟨0, Nat.le_refl _, hnone, h.curInv_fresh start rc n hp⟩
  | some c =>
    have hle : start + 0 ≤ rs := hc.1 ▸ Nat.le_add_right _ _
    simp only [stepCur]
    split
    · next hm => exact ⟨0, hle, hnone, h.curInv_growHole start rs rc n c hp hc hm⟩
    · split
      · -- the run of allocated grains takes in the grain that lies where `next` says
        next hm =>
        obtain ⟨_, _, _, hnext⟩ := block_step h.gs_pos (Nat.ne_of_gt hp.pos) hp.len
        obtain ⟨c1, c2, _, _, c5⟩ := hc
        exact ⟨0, hle, hnone, by rw [← c1]; exact (Nat.add_assoc start _ _).symm, fun hr => (hnext (Nat.ne_of_gt hr)).2,
          fun t0 => absurd (t0 ▸ hm.1 : 0 > 1) (Nat.not_lt_zero 1), fun t1 => absurd (t1 ▸ hm.1 : 1 > 1) (Nat.lt_irrefl 1),
          fun _ => h.grow start rs rc n c hp (c2 hp.pos) c1 hm.1 hm.2 (c5 hm.1)⟩
      · refine ⟨c.count, Nat.le_of_eq hc.1, fun rest bytes hr => ?_, hc.1 ▸ h.curInv_fresh rs rc n hp⟩
        simp only [List.cons_append, List.nil_append, Sparse.execRuns, hr,
          h.curInv_runData start rs rc c (Nat.le_of_add_right_le hp.cap) hc, bind, Except.bind]

theorem RunsOK.getRunsLoop_exec : ∀ fuel rs rc cur start, rc ≤ fuel → rs + rc ≤ v.capacity →
    CurInv v pc g A start rs rc cur →
    ∃ runs, v.getRunsLoop fuel rs rc cur = .ok runs ∧
      v.execRuns runs = .ok (slice g (start * 512) ((rs - start + rc) * 512)) := by
  intro fuel
  induction fuel with
  | zero =>
    intro rs rc cur start hl hcap hc
    obtain rfl : rc = 0 := Nat.le_zero.1 hl
    exact ⟨_, getRunsLoop_zero v 0 rs cur, h.curInv_flush start rs 0 cur hcap hc⟩
  | succ fuel ih =>
    intro rs rc cur start hl hcap hc
    by_cases hz : rc = 0
    · subst hz
      exact ⟨_, getRunsLoop_zero v _ rs cur, h.curInv_flush start rs 0 cur hcap hc⟩
    · have hrc : 0 < rc := Nat.pos_of_ne_zero hz
      have hG := h.gs_pos
      generalize hn : min rc (v.grainSize - rs % v.grainSize) = n
      obtain ⟨hn1, hn2, _, _⟩ := block_step hG hz hn
      obtain ⟨k, hk, e0, hc'⟩ := h.curInv_step start rs rc n cur ⟨hcap, hrc, hn⟩ hc
      have a1 : rc - n ≤ fuel := Nat.sub_le_of_le_add (Nat.le_trans hl (Nat.add_le_add_left hn1 _))
      have a2 : rs + n + (rc - n) ≤ v.capacity := by rw [Nat.add_assoc, Nat.add_sub_cancel' hn2]; exact hcap
      have a3 : rs < v.capacity := Nat.lt_of_lt_of_le (Nat.lt_add_of_pos_right hrc) hcap
      have e : rs - start + rc = k + (rs + n - (start + k) + (rc - n)) := by omega
      obtain ⟨rest, e1, e2⟩ := ih (rs + n) (rc - n) _ (start + k) a1 a2 hc'
      rw [getRunsLoop_succ v fuel rs rc n cur hz (Nat.ne_of_gt hG) hn, h.lookup _ (div_lt_nGrains v rs hG a3)]
      simp only [bind, Except.bind, e1]
      refine ⟨_, rfl, ?_⟩
      rw [e0 _ _ e2, e, slice_append_mul g start]

theorem RunsOK.readSectors (sector count : Nat)
    (hin : sector - v.sectorOffset + count ≤ v.capacity) :
    v.readSectors sector count = .ok (slice g ((sector - v.sectorOffset) * 512) (count * 512)) := by
  unfold Sparse.readSectors Sparse.getRuns
  by_cases hc : count = 0
  · subst hc; simp [Sparse.execRuns, bind, Except.bind]
  · obtain ⟨runs, e1, e2⟩ := h.getRunsLoop_exec count (sector - v.sectorOffset) count none
      (sector - v.sectorOffset) (Nat.le_refl _) hin rfl
    rw [Nat.sub_self, Nat.zero_add] at e2
    simp only [hc, if_false, e1, bind, Except.bind, e2]

end

/-- the clause of `CurOK` about a run of allocated grains: its file bytes are the guest bytes, and `next` is where the
    file continues -/
def allocU (v : Sparse) (pc : Nat → UInt8) (start _rs remaining : Nat) (c : Cur) : Prop :=
  v.fh.read ((c.type + c.offset) * 512) (c.count * 512) = slice (v.guest pc) (start * 512) (c.count * 512) ∧
    (0 < remaining → c.type + c.offset + c.count = c.next)

theorem guest_eq (v : Sparse) (pc : Nat → UInt8) (o : Nat) : v.guest pc o =
    if v.specGrain (o / 512 / v.grainSize) = 0 then (if v.parent.isSome then pc (v.sectorOffset * 512 + o) else 0)
    else if v.specGrain (o / 512 / v.grainSize) = 1 then 0
    else v.fh.byte ((v.specGrain (o / 512 / v.grainSize) + o / 512 % v.grainSize) * 512 + o % 512) := rfl

theorem piece_alloc (v : Sparse) (pc : Nat → UInt8) (hwf : WF v) (rs n : Nat) (hin : rs + n ≤ v.capacity) (hn : 0 < n)
    (hfit : rs % v.grainSize + n ≤ v.grainSize) (hgt : 1 < v.specGrain (rs / v.grainSize)) :
    v.fh.read ((v.specGrain (rs / v.grainSize) + rs % v.grainSize) * 512) (n * 512)
      = slice (v.guest pc) (rs * 512) (n * 512) := by
  have hfile := hwf.grains_in _ (div_lt_nGrains v rs hwf.gs_pos (Nat.lt_of_lt_of_le (Nat.lt_add_of_pos_right hn) hin)) hgt
  have hguest : ∀ i, i < n * 512 → v.guest pc (rs * 512 + i)
      = v.fh.byte ((v.specGrain (rs / v.grainSize) + rs % v.grainSize) * 512 + i) := by
    intro i hi
    obtain ⟨b1, b2, b3, _⟩ := piece_bytes v.grainSize rs n i hwf.gs_pos hfit hi
    have hne0 := Nat.ne_of_gt (Nat.lt_trans Nat.zero_lt_one hgt)
    have hne1 := Nat.ne_of_gt hgt
    -- `congrArg` below, not `congr`: `congr` would compare the two `_ * 512` by unfolding the multiplication
    rw [guest_eq, b1, if_neg hne0, if_neg hne1, b2, b3]
    refine congrArg v.fh.byte ?_
    rw [Nat.add_mul, Nat.add_mul, Nat.add_mul]
    omega
  generalize v.specGrain (rs / v.grainSize) = G at *
  rw [File.read_eq_slice (by
    rw [← Nat.add_mul, Nat.add_assoc]
    exact Nat.le_trans (Nat.mul_le_mul_right 512 (Nat.add_le_add_left hfit G)) hfile)]
  exact (slice_shift hguest).symm

theorem runsOK_sparse (v : Sparse) (pc : Nat → UInt8) (hwf : WF v) (hp : ParentOK v pc) :
    RunsOK v pc (v.guest pc) (allocU v pc) where
  gs_pos := hwf.gs_pos
  lookup := hwf.lookup
  parent := hp
  hole0 := fun o h => if_pos h
  hole1 := fun o h => (if_neg fun h0 => absurd (h0.symm.trans h) Nat.zero_ne_one).trans (if_pos h)
  fresh := fun rs rc n ⟨hcap, hrc, hn⟩ hgt => by
    obtain ⟨hn1, hn2, hfit, hnext⟩ := block_step hwf.gs_pos (Nat.ne_of_gt hrc) hn
    refine ⟨piece_alloc v pc hwf rs n (Nat.le_trans (Nat.add_le_add_left hn2 rs) hcap) hn1 hfit hgt, fun hr => ?_⟩
    show v.specGrain (rs / v.grainSize) + rs % v.grainSize + n = v.specGrain (rs / v.grainSize) + v.grainSize
    rw [Nat.add_assoc, piece_full _ rs rc n hwf.gs_pos hn (Nat.ne_of_gt hr)]
  grow := fun start rs rc n c ⟨hcap, hrc, hn⟩ hrs0 hcnt hgt hlook ⟨q1, q2⟩ => by
    obtain ⟨hn1, hn2, hfit, hnext⟩ := block_step hwf.gs_pos (Nat.ne_of_gt hrc) hn
    have hp := piece_alloc v pc hwf rs n (Nat.le_trans (Nat.add_le_add_left hn2 rs) hcap) hn1 hfit (by
      rw [hlook, ← q2 hrc]
      exact Nat.lt_of_lt_of_le hgt (Nat.le_trans (Nat.le_add_right _ _) (Nat.le_add_right _ _)))
    rw [hlook, hrs0, Nat.add_zero] at hp
    refine ⟨?_, fun hr => ?_⟩
    · dsimp only
      rw [Nat.add_mul c.count n, File.read_append, ← Nat.add_mul, q1, q2 hrc, hp, slice_append, ← Nat.add_mul, hcnt]
    · show c.type + c.offset + (c.count + n) = c.next + v.grainSize
      have hfull := piece_full _ rs rc n hwf.gs_pos hn (Nat.ne_of_gt hr)
      rw [hrs0, Nat.zero_add] at hfull
      rw [← Nat.add_assoc, q2 hrc, hfull]
  data := fun start rs rem c _ _ hgt ⟨q1, _⟩ => by
    simp only [Sparse.runData, Cur.toRun, S_eq, Nat.ne_of_gt (Nat.lt_trans Nat.zero_lt_one hgt), Nat.ne_of_gt hgt,
      if_false, hwf.uncompressed, if_true, q1]

/-- `SparseDisk.read_sectors` inside the extent.  `_hs` is not used by the proof (the model subtracts in `Nat`); it keeps
    the statement, which is C02's `sparse_read_correct`, where model and Python agree: below `sector_offset` Python works
    with a negative relative sector. -/
theorem sparse_readSectors_correct (v : Sparse) (pc : Nat → UInt8) (hwf : WF v) (hp : ParentOK v pc)
    (sector count : Nat) (_hs : v.sectorOffset ≤ sector) (hin : sector - v.sectorOffset + count ≤ v.capacity) :
    v.readSectors sector count
      = .ok (slice (v.guest pc) ((sector - v.sectorOffset) * 512) (count * 512)) :=
  (runsOK_sparse v pc hwf hp).readSectors sector count hin

theorem decodeSe_ne_nonTermination (v : Sparse) (e : Nat) : v.decodeSe e ≠ .error .nonTermination :=
  ite_ne_error nofun (ite_ne_error nofun (ite_ne_error nofun nofun))

theorem lookupGrain_ne_nonTermination (v : Sparse) (j : Nat) : v.lookupGrain j ≠ .error .nonTermination := by
  unfold Sparse.lookupGrain
  refine ite_ne_error nofun ?_
  split
  · nofun
  split
  · nofun
  simp only [bind, Except.bind, throw, throwThe, MonadExceptOf.throw, pure, Except.pure]
  exact ite_ne_error nofun (ite_ne_error (decodeSe_ne_nonTermination v _) nofun)

theorem getRunsLoop_progress (v : Sparse) : ∀ fuel rs rc cur, rc ≤ fuel →
    v.getRunsLoop fuel rs rc cur ≠ .error .nonTermination := by
  intro fuel
  induction fuel with
  | zero =>
    intro rs rc cur h
    obtain rfl : rc = 0 := Nat.le_zero.1 h
    rw [getRunsLoop_zero]
    nofun
  | succ fuel ih =>
    intro rs rc cur hl
    by_cases hz : rc = 0
    · rw [hz, getRunsLoop_zero]
      nofun
    by_cases hg : v.grainSize = 0
    · simp [Sparse.getRunsLoop, hz, hg]
    obtain ⟨hn, _⟩ := block_step (off := rs) (Nat.pos_of_ne_zero hg) hz rfl
    rw [getRunsLoop_succ v fuel rs rc _ cur hz hg rfl]
    exact bind_ne_error (lookupGrain_ne_nonTermination v _) fun gs _ =>
      bind_ne_error (ih _ _ _ (Nat.sub_le_of_le_add (Nat.le_trans hl (Nat.add_le_add_left hn _)))) fun _ _ => nofun

theorem wfbU_sound (v : Sparse) (h : v.wfbU = true) : WF v := by
  unfold Sparse.wfbU at h
  simp only [Bool.and_eq_true, decide_eq_true_eq, List.all_eq_true, List.mem_range, Bool.or_eq_true] at h
  obtain ⟨⟨⟨⟨h1, h2⟩, h3⟩, h4⟩, h5⟩ := h
  exact ⟨h1, h2, h3, h4, fun g hg => (h5 g hg).1, fun g hg hgt => by
    rcases (h5 g hg).2 with h | h
    · exact absurd hgt (Nat.not_lt_of_le h)
    · exact h⟩


/-! ### `VMDK.read_sectors`: one step of the extent walk (used by `Concat`); `VMDK(fh)` on a single extent -/

theorem readSectorsLoop_zero (v : Vmdk) (fuel sector idx : Nat) : v.readSectorsLoop fuel sector 0 idx = .ok [] := by
  cases fuel <;> simp [Vmdk.readSectorsLoop]

theorem readSectorsLoop_past_end (v : Vmdk) (fuel sector count idx : Nat) (h : v.disks.size ≤ idx) :
    v.readSectorsLoop fuel sector count idx = .ok [] := by
  cases fuel with
  | zero => simp [Vmdk.readSectorsLoop]; omega
  | succ f =>
    unfold Vmdk.readSectorsLoop
    by_cases hc : count = 0
    · simp [hc]
    · have : v.disks[idx]? = none := by simp; omega
      simp [hc, this]

/-- one iteration inside disk `d`: Python's integer arithmetic, in `Nat` -/
theorem readSectorsLoop_succ (v : Vmdk) (fuel sector count idx : Nat) (d : Disk) (hd : v.disks[idx]? = some d)
    (hc : 0 < count) (hhi : sector < d.sectorOffset + d.sectorCount) :
    v.readSectorsLoop (fuel + 1) sector count idx =
      (d.readSectors sector (min (d.sectorOffset + d.sectorCount - sector) count)).bind (fun x =>
        (v.readSectorsLoop fuel (sector + min (d.sectorOffset + d.sectorCount - sector) count)
          (count - min (d.sectorOffset + d.sectorCount - sector) count) (idx + 1)).bind (fun rest =>
            .ok (x ++ rest))) := by
  rw [Vmdk.readSectorsLoop]
  have hcz : ¬ count = 0 := by omega
  simp only [hcz, if_false, hd]
  have hmin : min ((d.sectorCount : Int) - ((sector : Int) - (d.sectorOffset : Int))) (count : Int)
      = ((min (d.sectorOffset + d.sectorCount - sector) count : Nat) : Int) := by omega
  rw [hmin]
  have hpos : ¬ (((min (d.sectorOffset + d.sectorCount - sector) count : Nat) : Int) < 0) := by omega
  have hnz : ¬ (((min (d.sectorOffset + d.sectorCount - sector) count : Nat) : Int) = 0) := by omega
  simp only [hpos, hnz, if_false, Int.toNat_natCast]
  rfl

/-- a VMDK made of one disk placed at sector 0 -/
def single (d : Disk) : Vmdk := ⟨#[d], d.size⟩

theorem single_readSectors (d : Disk) (g : Nat → UInt8) (hd : d.sectorOffset = 0)
    (hread : ∀ s c, s + c ≤ d.sectorCount → d.readSectors s c = .ok (slice g (s * 512) (c * 512)))
    (sector count : Nat) (hs : sector < d.sectorCount) (hc : 0 < count) :
    (single d).readSectors sector count = .ok (slice g (sector * 512) (min (d.sectorCount - sector) count * 512)) := by
  have hoffs : (single d).diskOffsets = [] := by simp [single, Vmdk.diskOffsets]
  unfold Vmdk.readSectors
  rw [hoffs]
  have hget : (single d).disks[0]? = some d := rfl
  show (single d).readSectorsLoop (count + 1 + 1) sector count 0 = _
  rw [readSectorsLoop_succ _ _ _ _ _ d hget hc (by rw [hd, Nat.zero_add]; exact hs), hd, Nat.zero_add,
    hread _ _ (Nat.add_le_of_le_sub' (Nat.le_of_lt hs) (Nat.min_le_left _ _)),
    readSectorsLoop_past_end _ _ _ _ 1 (Nat.le_refl _)]
  simp only [Except.bind, List.append_nil]

theorem single_backendOK (d : Disk) (g : Nat → UInt8) (hd : d.sectorOffset = 0)
    (hread : ∀ s c, s + c ≤ d.sectorCount → d.readSectors s c = .ok (slice g (s * 512) (c * 512)))
    (align : Nat) (ha : align % 512 = 0) : BackendOK (d.sectorCount * 512) align (single d).read g := by
  refine backendOK_of_sectors d.sectorCount 512 (single d).read g (by decide)
    (fun _ => readSectorsLoop_zero _ _ _ _) (fun off len ho hlt hl => ?_) align ha
  · show (single d).readSectors (off / 512) ((len + 511) / 512) = _
    rw [single_readSectors d g hd hread _ _ (Nat.div_lt_of_lt_mul (Nat.mul_comm _ 512 ▸ hlt))
      (Nat.div_pos (Nat.add_le_add_right hl 511) (by decide)), Nat.div_mul_cancel (Nat.dvd_of_mod_eq_zero ho)]
    rfl

end Hv.Vmdk
