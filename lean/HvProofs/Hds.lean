import Hv.Hds
import HvProofs.BlockLoop
import HvProofs.Stream
namespace Hv.Hds
open Hv Hv.Extracted.hdd

theorem SS_eq : SECTOR_SIZE = 512 := rfl

variable (v : Hds) (pc : Nat → UInt8)

theorem readOffset_of_entry {off e : Nat} (hget : v.bat[off / v.clusterSize]? = some e) :
    v.readOffset off = .ok (if e = 0 then 0 else e * v.mult * 512 + off % v.clusterSize) := by
  rw [Hds.readOffset, hget]; rfl

theorem runData_sparse (off n : Nat) :
    v.runData off (0, n) = (match v.parent with | some p => p off n | none => .ok (zeros n)) := rfl

theorem runData_file (off : Nat) {ro : Nat} (h : ro ≠ 0) (n : Nat) :
    v.runData off (ro, n) = .ok (v.fh.read ro n) := by
  rw [Hds.runData, if_neg h]

theorem iterRuns_done (fuel : Nat) {offset length : Nat} (h : ¬ (offset < v.size ∧ length > 0))
    (cur : Option (Nat × Nat)) : v.iterRuns fuel offset length cur = .ok (flush cur) := by
  cases fuel <;> rw [Hds.iterRuns, if_neg h]

theorem iterRuns_succ (fuel : Nat) {offset length n : Nat} (h : offset < v.size ∧ length > 0)
    (hcs : v.clusterSize ≠ 0) (hn : min length (v.clusterSize - offset % v.clusterSize) = n)
    (cur : Option (Nat × Nat)) :
    v.iterRuns (fuel + 1) offset length cur =
      (do let ro ← v.readOffset offset
          match cur with
          | none => v.iterRuns fuel (offset + n) (length - n) (some (ro, n))
          | some (runOff, runSize) =>
            if (runOff ≠ 0 ∧ ro = runOff + runSize) ∨ (runOff = 0 ∧ ro = 0) then
              v.iterRuns fuel (offset + n) (length - n) (some (runOff, runSize + n))
            else do
              let rest ← v.iterRuns fuel (offset + n) (length - n) (some (ro, n))
              .ok ((runOff, runSize) :: rest)) := by
  subst hn
  rw [Hds.iterRuns, if_pos h, if_neg hcs, Nat.min_comm]
  rfl

theorem execRuns_cons (off : Nat) (r : Nat × Nat) (rest : List (Nat × Nat)) :
    v.execRuns off (r :: rest) = (do
      let d ← v.runData off r
      let t ← v.execRuns (off + r.2) rest
      .ok (d ++ t)) := rfl

/-- the parent (if any) reads as `pc` on the child's cluster coverage -/
def ParentOK (v : Hds) (pc : Nat → UInt8) : Prop :=
  ∀ p, v.parent = some p → ∀ off len, off + len ≤ v.bat.size * v.clusterSize →
    p off len = .ok (slice pc off len)

theorem guest_of_entry {i e : Nat} (hget : v.bat[i]? = some e)
    (o : Nat) (ho : o / v.clusterSize = i) :
    v.guest pc o = if e = 0 then (if v.parent.isSome then pc o else 0)
      else v.fh.byte (e * v.mult * 512 + o % v.clusterSize) := by
  simp only [Hds.guest, ho, hget]

theorem chunk_ok (hwf : WF v) (hp : ParentOK v pc)
    (off n : Nat) (hoff : off < v.size) (hn : off % v.clusterSize + n ≤ v.clusterSize) :
    ∃ ro, v.readOffset off = .ok ro ∧ off + n ≤ v.bat.size * v.clusterSize ∧
      v.runData off (ro, n) = .ok (slice (v.guest pc) off n) := by
  have hcs := hwf.cs_pos
  have hidx : off / v.clusterSize < v.bat.size := by
    apply Nat.div_lt_of_lt_mul
    have := hwf.covers
    rw [Nat.mul_comm]; omega
  have hget : v.bat[off / v.clusterSize]? = some v.bat[off / v.clusterSize] := by simp [hidx]
  -- the chunk ends inside its cluster, and the cluster is one of the table's
  have hcov : off + n ≤ v.bat.size * v.clusterSize := by
    have h1 := Nat.div_add_mod off v.clusterSize
    have h2 : v.clusterSize * (off / v.clusterSize + 1) ≤ v.clusterSize * v.bat.size := Nat.mul_le_mul_left _ hidx
    rw [Nat.mul_succ] at h2
    rw [Nat.mul_comm v.bat.size]; omega
  have hg := guest_of_entry v pc hget
  have hent := hwf.entries _ hidx
  refine ⟨_, readOffset_of_entry v hget, hcov, ?_⟩
  generalize v.bat[off / v.clusterSize] = e at hg hent
  by_cases he : e = 0
  · rw [if_pos he, runData_sparse]
    cases hpar : v.parent with
    | none =>
      simp only
      rw [slice_unit_zero (g := v.guest pc) hcs hn fun o ho => by rw [hg o ho, if_pos he]; simp [hpar]]
    | some p =>
      simp only
      rw [hp p hpar off n hcov,
        slice_unit_congr (g := v.guest pc) hcs hn fun o ho => by rw [hg o ho, if_pos he]; simp [hpar]]
  · have hin : e * v.mult * 512 + v.clusterSize ≤ v.fh.size := hent.resolve_left he
    have hpos : 0 < e * v.mult * 512 :=
      Nat.mul_pos (Nat.mul_pos (Nat.pos_of_ne_zero he) hwf.mult_pos) (by decide)
    have hrd : e * v.mult * 512 + off % v.clusterSize + n ≤ v.fh.size := by
      rw [Nat.add_assoc]; exact Nat.le_trans (Nat.add_le_add_left hn _) hin
    rw [if_neg he, runData_file v off (Nat.ne_of_gt (Nat.lt_of_lt_of_le hpos (Nat.le_add_right _ _))),
      File.read_eq_slice hrd,
      slice_unit_file (g := v.guest pc) _ hcs hn fun o ho => by rw [hg o ho, if_neg he]]

theorem runData_merge (hp : ParentOK v pc) {start ro rs ro' n : Nat}
    (hm : (ro ≠ 0 ∧ ro' = ro + rs) ∨ (ro = 0 ∧ ro' = 0))
    (h1 : v.runData start (ro, rs) = .ok (slice (v.guest pc) start rs))
    (h2 : v.runData (start + rs) (ro', n) = .ok (slice (v.guest pc) (start + rs) n))
    (hcov : start + rs + n ≤ v.bat.size * v.clusterSize) :
    v.runData start (ro, rs + n) = .ok (slice (v.guest pc) start (rs + n)) := by
  rw [slice_append]
  rcases hm with ⟨hnz, rfl⟩ | ⟨rfl, rfl⟩
  · -- two stretches of the file, one after the other
    rw [runData_file v _ hnz] at h1 ⊢
    rw [runData_file v _ (by omega)] at h2
    rw [File.read_append, Except.ok.inj h1, Except.ok.inj h2]
  · rw [runData_sparse] at h1 h2 ⊢
    cases hpar : v.parent with
    | none =>
      rw [hpar] at h1 h2
      rw [zeros_append, Except.ok.inj h1, Except.ok.inj h2]
    | some p =>
      rw [hpar] at h1 h2
      simp only at h1 h2 ⊢
      rw [hp p hpar _ _ (by omega)] at h1
      rw [hp p hpar _ _ hcov] at h2
      rw [hp p hpar _ _ (by omega), slice_append, Except.ok.inj h1, Except.ok.inj h2]

/-- what is known about the pending (not yet yielded) run, `k` bytes from guest offset `start` -/
def CurOK (v : Hds) (pc : Nat → UInt8) (start k : Nat) : Option (Nat × Nat) → Prop
  | none => k = 0
  | some r => r.2 = k ∧ start + k ≤ v.bat.size * v.clusterSize ∧
      v.runData start r = .ok (slice (v.guest pc) start k)

theorem flush_exec (start k : Nat)
    (cur : Option (Nat × Nat)) (h : CurOK v pc start k cur) :
    v.execRuns start (flush cur) = .ok (slice (v.guest pc) start k) := by
  cases cur with
  | none => rw [show k = 0 from h]; rfl
  | some r =>
    obtain ⟨rfl, _, hd⟩ := h
    rw [flush, execRuns_cons, hd]
    show Except.ok (_ ++ []) = _
    rw [List.append_nil]

/-- The runs `_iter_runs` yields, executed: the guest bytes of the pending run and of `Lr` more bytes, the
    request or what of it lies before the end of the disk's last cluster. -/
theorem iterRuns_exec (hwf : WF v) (hp : ParentOK v pc) :
    ∀ fuel start k length cur, length ≤ fuel → CurOK v pc start k cur →
    ∃ runs Lr, v.iterRuns fuel (start + k) length cur = .ok runs ∧
      Lr ≤ length ∧ (Lr = length ∨ v.size ≤ start + k + Lr) ∧
      v.execRuns start runs = .ok (slice (v.guest pc) start (k + Lr)) := by
  have hcs := hwf.cs_pos
  intro fuel
  induction fuel with
  | zero =>
    intro start k length cur hl hc
    obtain rfl : length = 0 := by omega
    exact ⟨_, 0, iterRuns_done v 0 (fun h => Nat.lt_irrefl 0 h.2) cur, Nat.le_refl _, Or.inl rfl,
      flush_exec v pc start k cur hc⟩
  | succ fuel ih =>
    intro start k length cur hl hc
    by_cases hcond : start + k < v.size ∧ length > 0
    · generalize hn : min length (v.clusterSize - (start + k) % v.clusterSize) = n
      rw [iterRuns_succ v fuel hcond (Nat.ne_of_gt hcs) hn]
      obtain ⟨h0, hnl, hfit, _⟩ := block_step hcs (Nat.ne_of_gt hcond.2) hn
      obtain ⟨ro, hro, hcov, hdata⟩ := chunk_ok v pc hwf hp (start + k) n hcond.1 hfit
      rw [hro]
      -- whichever run the chunk goes to, the rest of the request is served from `start + k + n`
      have hrest : ∀ start' k' cur', start' + k' = start + k + n → CurOK v pc start' k' cur' →
          ∃ runs Lr, v.iterRuns fuel (start + k + n) (length - n) cur' = .ok runs ∧
            n + Lr ≤ length ∧ (n + Lr = length ∨ v.size ≤ start + k + (n + Lr)) ∧
            v.execRuns start' runs = .ok (slice (v.guest pc) start' (k' + Lr)) := by
        intro start' k' cur' he hc'
        obtain ⟨runs, Lr, e1, e2, e3, e4⟩ := ih start' k' (length - n) cur' (by omega) hc'
        rw [he] at e1 e3
        refine ⟨runs, Lr, e1, Nat.add_le_of_le_sub' hnl e2, e3.imp (fun h => ?_) (fun h => ?_), e4⟩
        · rw [h, Nat.add_sub_cancel' hnl]
        · rw [← Nat.add_assoc]; exact h
      cases cur with
      | none =>
        obtain rfl : k = 0 := hc
        obtain ⟨runs, Lr, e1, e2, e3, e4⟩ := hrest start n (some (ro, n)) rfl ⟨rfl, hcov, hdata⟩
        exact ⟨runs, n + Lr, e1, e2, e3, by rw [e4, Nat.zero_add]⟩
      | some r =>
        obtain ⟨runOff, runSize⟩ := r
        obtain ⟨hk, c2, c3⟩ := hc
        obtain rfl : runSize = k := hk
        dsimp only [bind, Except.bind]
        by_cases hm : (runOff ≠ 0 ∧ ro = runOff + runSize) ∨ (runOff = 0 ∧ ro = 0)
        · -- the chunk extends the pending run
          rw [if_pos hm]
          obtain ⟨runs, Lr, e1, e2, e3, e4⟩ := hrest start (runSize + n) (some (runOff, runSize + n))
            (Nat.add_assoc _ _ _).symm ⟨rfl, Nat.add_assoc _ _ _ ▸ hcov, runData_merge v pc hp hm c3 hdata hcov⟩
          exact ⟨runs, n + Lr, e1, e2, e3, by rw [e4, Nat.add_assoc]⟩
        · -- the pending run is yielded, the chunk starts a new one
          rw [if_neg hm]
          obtain ⟨rest, Lr, e1, e2, e3, e4⟩ := hrest (start + runSize) n (some (ro, n)) rfl ⟨rfl, hcov, hdata⟩
          rw [e1]
          refine ⟨_, n + Lr, rfl, e2, e3, ?_⟩
          rw [execRuns_cons, c3, e4]
          show Except.ok (_ ++ _) = _
          rw [← slice_append]
    · refine ⟨_, 0, iterRuns_done v _ hcond cur, Nat.zero_le _, ?_, flush_exec v pc start k cur hc⟩
      by_cases h0 : length = 0
      · exact Or.inl h0.symm
      · exact Or.inr (Nat.le_of_not_lt fun h => hcond ⟨h, Nat.pos_of_ne_zero h0⟩)

/-- `_read`: succeeds with the guest bytes of `[off, off+Lr)` where `Lr` is at least the
    in-range part of the request (the loop may run to the end of the last cluster) -/
theorem read_spec (hwf : WF v) (hp : ParentOK v pc) (off len : Nat) :
    ∃ Lr, min len (v.size - off) ≤ Lr ∧ Lr ≤ len ∧ v.read off len = .ok (slice (v.guest pc) off Lr) := by
  obtain ⟨runs, Lr, e1, e2, e3, e4⟩ := iterRuns_exec v pc hwf hp len off 0 len none (Nat.le_refl _) rfl
  rw [Nat.add_zero] at e1 e3
  refine ⟨Lr, by omega, e2, ?_⟩
  rw [Hds.read, e1]
  show v.execRuns off runs = _
  rw [e4, Nat.zero_add]

theorem iterRuns_progress : ∀ fuel offset length cur, length ≤ fuel →
    v.iterRuns fuel offset length cur ≠ .error .nonTermination := by
  intro fuel
  induction fuel with
  | zero =>
    intro offset length cur h
    rw [iterRuns_done v 0 (fun hc => by omega)]; nofun
  | succ fuel ih =>
    intro offset length cur hl
    by_cases hcond : offset < v.size ∧ length > 0
    · by_cases hcs : v.clusterSize = 0
      · rw [Hds.iterRuns, if_pos hcond, if_pos hcs]; nofun
      · generalize hn : min length (v.clusterSize - offset % v.clusterSize) = n
        rw [iterRuns_succ v fuel hcond hcs hn]
        have h0 := (block_step (Nat.pos_of_ne_zero hcs) (Nat.ne_of_gt hcond.2) hn).1
        have hro : v.readOffset offset ≠ .error .nonTermination := by
          unfold Hds.readOffset; split <;> nofun
        refine bind_ne_error hro fun ro _ => ?_
        have hih := fun cur' => ih (offset + n) (length - n) cur' (by omega)
        cases cur with
        | none => exact hih _
        | some r =>
          exact ite_ne_error (hih _) (bind_ne_error (hih _) fun _ _ => nofun)
    · rw [iterRuns_done v _ hcond]; nofun

end Hv.Hds
