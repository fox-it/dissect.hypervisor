/- `OVF.__init__` / `OVF.disks` (model `Hv.Configs.ovfDisks`) against the pointwise specification
   `Hv.ConfigsSpec.ovfSpec` (C18, `ovf_disks_exact`). -/
import HvProofs.Configs
import Hv.ConfigsSpec
namespace Hv.Configs
open Hv.XPath Hv.ConfigsSpec

section fold
variable {α κ β : Type} [DecidableEq κ]

/-- the last element satisfying `p`: what a loop of assignments leaves under a key when keys may repeat (the OVF
    dictionaries are only looked at under distinct keys, `aget_foldl_aset`, where it is the first and only one) -/
def lastBy (p : α → Bool) : List α → Option α
  | [] => none
  | a :: t => match lastBy p t with
    | some x => some x
    | none => if p a then some a else none

theorem lastBy_eq_none (p : α → Bool) (l : List α) (h : ∀ a ∈ l, p a = false) : lastBy p l = none := by
  induction l with
  | nil => rfl
  | cons a t ih =>
    simp only [lastBy, ih (fun b hb => h b (List.mem_cons_of_mem _ hb)), h a (List.mem_cons_self ..)]
    rfl

theorem aget_foldl_aset (key : α → κ) (val : α → β) (l : List α) (hn : (l.map key).Nodup) (d : List (κ × β)) (k : κ) :
    aget k (l.foldl (fun d a => aset (key a) (val a) d) d) =
      (match l.find? (fun a => decide (key a = k)) with
       | some a => some (val a)
       | none => aget k d) := by
  induction l generalizing d with
  | nil => rfl
  | cons a t ih =>
    rw [List.map_cons, List.nodup_cons] at hn
    rw [List.foldl_cons, ih hn.2, List.find?_cons, aget_aset]
    by_cases hk : key a = k
    · have : t.find? (fun a => decide (key a = k)) = none :=
        List.find?_eq_none.2 fun b hb e => hn.1 (List.mem_map.2 ⟨b, hb, by rw [of_decide_eq_true e, hk]⟩)
      simp [this, hk]
    · simp [hk]

end fold

theorem dropPrefix?_append (p r : Str) : dropPrefix? p (p ++ r) = some r := by
  induction p with
  | nil => cases r <;> rfl
  | cons a p ih => simp [dropPrefix?, ih]

theorem dropPrefix?_eq_some {p s r : Str} (h : dropPrefix? p s = some r) : s = p ++ r := by
  fun_induction dropPrefix? p s <;> grind

theorem isPrefixOf_eq_dropPrefix (p s : Str) : p.isPrefixOf s = (dropPrefix? p s).isSome := by
  fun_induction dropPrefix? p s <;> grind [List.isPrefixOf]

theorem removePrefix_eq (p s : Str) : removePrefix p s = (dropPrefix? p s).getD s := by
  unfold removePrefix
  rw [isPrefixOf_eq_dropPrefix]
  cases h : dropPrefix? p s with
  | none => rfl
  | some r => simp [dropPrefix?_eq_some h]

theorem splitOn_no_sep (sep : Char) (b : Str) (h : sep ∉ b) : splitOn sep b = [b] := by
  induction b <;> grind [splitOn]

/-- the pieces before the last are written `p0 :: pre`: `splitOn`'s `match` on the recursive result needs to see a `cons` -/
theorem splitOn_append_sep (sep : Char) (a b : Str) (h : sep ∉ b) :
    ∃ p0 pre, splitOn sep (a ++ sep :: b) = (p0 :: pre) ++ [b] := by
  induction a with
  | nil => exact ⟨[], [], by simp [splitOn, splitOn_no_sep sep b h]⟩
  | cons c a ih =>
    obtain ⟨p0, pre, e⟩ := ih
    by_cases hc : c = sep
    · exact ⟨[], p0 :: pre, by simp [splitOn, e, hc]⟩
    · exact ⟨c :: p0, pre, by simp [splitOn, e, hc]⟩

/-- `(p + id).split("/")[-1] == id` for a prefix `p` ending in the separator and an `id` without it -/
theorem lastSeg_dropPrefix {sep : Char} {p y id : Str} (hp : p.getLast? = some sep) (h : dropPrefix? p y = some id)
    (hs : sep ∉ id) : lastSeg sep y = id := by
  obtain ⟨p', rfl⟩ := List.getLast?_eq_some_iff.1 hp
  obtain ⟨p0, pre, e⟩ := splitOn_append_sep sep p' id hs
  rw [dropPrefix?_eq_some h, List.append_assoc, lastSeg, List.singleton_append, e, List.getLastD_concat]

theorem ovfCfg_eq : ovfCfg =
    { fileSteps := [.child tReferences, .child tFile]
      diskSteps := [.child tDiskSection, .child tDisk]
      driveSteps := [.child tVirtualSystem, .child tVirtualHardwareSection, .child tItem, .childText tResourceType "17".toList]
      hostResSteps := [.child tHostResource]
      aId := idAttr, aHref := hrefAttr, aDiskId := diskIdAttr, aFileRef := fileRefAttr
      pfx := "ovf:".toList, pDisk := "/disk/".toList, pFile := "/file/".toList, slash1 := '/', slash2 := '/' } := rfl

theorem ovf_findall (root : Xml) :
    findall ovfCfg.fileSteps root = some (fileEls root) ∧ findall ovfCfg.diskSteps root = some (diskEls root)
    ∧ findall ovfCfg.driveSteps root = some (driveItems root) := by
  rw [ovfCfg_eq]
  simp only [findall, run, select, List.flatMap_cons, List.flatMap_nil, List.append_nil]
  exact ⟨rfl, rfl, rfl⟩

theorem findall_hostRes (item : Xml) : findall ovfCfg.hostResSteps item = some (kids tHostResource item) := by
  rw [ovfCfg_eq]
  simp only [findall, run, select, List.flatMap_cons, List.flatMap_nil, List.append_nil]
  rfl

theorem nodup_of_nodupb {α : Type} [DecidableEq α] (l : List α) (h : nodupb l = true) : l.Nodup := by
  induction l <;> grind [nodupb]

/-- the code's string handling of a `HostResource` text agrees with `hostTarget` on identifiers without `/` -/
theorem resolve_text {refs dmap : ODict} {it r : Xml} {rest : List Xml} {x id : Str} {b : Bool}
    (hk : kids tHostResource it = r :: rest) (hx : r.text = some x) (ht : hostTarget x = some (b, id)) (hs : '/' ∉ id) :
    ovfResolve ovfCfg refs dmap it = aget (some id) (if b then dmap else refs) := by
  unfold ovfResolve
  rw [findall_hostRes, hk, ovfCfg_eq]
  simp only [hx, removePrefix_eq, isPrefixOf_eq_dropPrefix]
  unfold hostTarget at ht
  dsimp only at ht
  split at ht
  · rename_i id' h1
    cases ht
    rw [h1, Option.isSome_some, if_pos rfl, lastSeg_dropPrefix rfl h1 hs, if_pos rfl]
  · rename_i h1
    split at ht
    · rename_i id' h2
      cases ht
      rw [h1, h2, Option.isSome_none, if_neg nofun, Option.isSome_some, if_pos rfl,
        lastSeg_dropPrefix rfl h2 hs, if_neg nofun]
    · cases ht

/-- `self.references.get(id)`: the href attribute of the `File` carrying the id -/
theorem refs_lookup (fs : List Xml) (hn : (fs.map (fun f => f.get idAttr)).Nodup) (k : Option Str) :
    aget k (ovfRefs ovfCfg fs) =
      (match fs.find? (fun f => decide (f.get idAttr = k)) with
       | some f => some (f.get hrefAttr)
       | none => none) := by
  rw [ovfRefs, ovfCfg_eq]
  dsimp only
  rw [aget_foldl_aset (fun f : Xml => f.get idAttr) (fun f => f.get hrefAttr) fs hn]
  cases fs.find? _ <;> rfl

/-- `self._disks` as the loop leaves it when nothing raises: `diskId ↦ self.references[fileRef]`, filled into `d` -/
def disksDict (refs : ODict) (ds : List Xml) (d : ODict) : ODict :=
  ds.foldl (fun d e => aset (e.get diskIdAttr) ((aget (e.get fileRefAttr) refs).getD none) d) d

theorem diskMap_eq (refs : ODict) (ds : List Xml) (d : ODict)
    (h : ∀ e ∈ ds, (aget (e.get fileRefAttr) refs).isSome = true) :
    ovfDiskMap ovfCfg refs ds d = some (disksDict refs ds d) := by
  rw [ovfCfg_eq]
  induction ds generalizing d with
  | nil => rfl
  | cons e es ih =>
    obtain ⟨v, hv⟩ := Option.isSome_iff_exists.1 (h e (List.mem_cons_self ..))
    rw [ovfDiskMap]
    dsimp only
    rw [hv]
    dsimp only
    rw [ih _ (fun x hx => h x (List.mem_cons_of_mem _ hx))]
    simp only [disksDict, List.foldl_cons, hv, Option.getD_some]

theorem find?_of_hasId (attr : Str) (l : List Xml) (id : Str) (h : hasId attr l id = true) :
    ∃ e, l.find? (fun e => decide (e.get attr = some id)) = some e ∧ e ∈ l := by
  obtain ⟨e, he, hp⟩ := List.any_eq_true.1 h
  cases hf : l.find? (fun e => decide (e.get attr = some id)) with
  | none => exact absurd hp (List.find?_eq_none.1 hf e he)
  | some x => exact ⟨x, rfl, List.mem_of_find?_eq_some hf⟩

/-- the facts `ovfWfb` packs -/
structure OvfWF (root : Xml) : Prop where
  fileAttrs : ∀ f ∈ fileEls root, (f.get idAttr).isSome = true ∧ (f.get hrefAttr).isSome = true
  fileIds : ((fileEls root).map (fun f => f.get idAttr)).Nodup
  diskAttrs : ∀ d ∈ diskEls root, (d.get diskIdAttr).isSome = true ∧
    ∃ r, d.get fileRefAttr = some r ∧ hasId idAttr (fileEls root) r = true
  diskIds : ((diskEls root).map (fun d => d.get diskIdAttr)).Nodup
  items : ∀ it ∈ driveItems root, ∃ x, hostText it = some x ∧
    ((∃ id, hostTarget x = some (true, id) ∧ '/' ∉ id ∧ hasId diskIdAttr (diskEls root) id = true) ∨
     (∃ id, hostTarget x = some (false, id) ∧ '/' ∉ id ∧ hasId idAttr (fileEls root) id = true))

theorem ovfWF_of_wfb (root : Xml) (h : ovfWfb root = true) : OvfWF root := by
  simp only [ovfWfb, Bool.and_eq_true, List.all_eq_true] at h
  obtain ⟨⟨⟨⟨h1, h2⟩, h3⟩, h4⟩, h5⟩ := h
  refine ⟨h1, nodup_of_nodupb _ h2, fun d hd => ?_, nodup_of_nodupb _ h4, fun it hit => ?_⟩
  · -- `h3 d hd` is a Boolean `&&` with a `match` on `d.get fileRefAttr`: only its `some` branch can be `true`
    have := h3 d hd
    grind
  · -- `h5 it hit` is a `match` on `hostText it` and then on `hostTarget x`: the two `some` branches are the two disjuncts
    have := h5 it hit
    grind

theorem file_lookup (root : Xml) (w : OvfWF root) (id : Str) (h : hasId idAttr (fileEls root) id = true) :
    ∃ href, aget (some id) (ovfRefs ovfCfg (fileEls root)) = some (some href) ∧ fileHref (fileEls root) id = some href := by
  obtain ⟨f, hf, hmem⟩ := find?_of_hasId idAttr (fileEls root) id h
  obtain ⟨href, hh⟩ := Option.isSome_iff_exists.1 (w.fileAttrs f hmem).2
  refine ⟨href, ?_, ?_⟩
  · rw [refs_lookup _ w.fileIds, hf]; dsimp only; rw [hh]
  · unfold fileHref; rw [hf]; dsimp only; rw [hh]

theorem resolve_item (root : Xml) (w : OvfWF root) (it : Xml) (hit : it ∈ driveItems root) :
    ∃ href, ovfResolve ovfCfg (ovfRefs ovfCfg (fileEls root))
        (disksDict (ovfRefs ovfCfg (fileEls root)) (diskEls root) []) it = some (some href)
      ∧ itemHref (fileEls root) (diskEls root) it = some href := by
  obtain ⟨x, hx, hcase⟩ := w.items it hit
  obtain ⟨r, rest, hk, hr⟩ : ∃ r rest, kids tHostResource it = r :: rest ∧ r.text = some x := by
    unfold hostText at hx
    cases hk : kids tHostResource it with
    | nil => rw [hk] at hx; cases hx
    | cons r rest => rw [hk] at hx; exact ⟨r, rest, rfl, hx⟩
  unfold itemHref
  rw [hx]
  rcases hcase with ⟨id, ht, hs, hid⟩ | ⟨id, ht, hs, hid⟩
  · rw [resolve_text hk hr ht hs, if_pos rfl]
    simp only [ht]
    obtain ⟨d, hd, hdm⟩ := find?_of_hasId diskIdAttr (diskEls root) id hid
    obtain ⟨_, ref, href, hrid⟩ := w.diskAttrs d hdm
    obtain ⟨h, h1, h2⟩ := file_lookup root w ref hrid
    refine ⟨h, ?_, ?_⟩
    · rw [disksDict, aget_foldl_aset (fun d : Xml => d.get diskIdAttr) _ _ w.diskIds, hd]; dsimp only; rw [href, h1]; rfl
    · unfold diskFileRef; rw [hd]; dsimp only; rw [href]; exact h2
  · rw [resolve_text hk hr ht hs, if_neg nofun]
    simp only [ht]
    exact file_lookup root w id hid

theorem mapMOpt_eq_filterMap {α β : Type} (f : α → Option (Option β)) (g : α → Option β) (l : List α)
    (h : ∀ a ∈ l, ∃ b, f a = some (some b) ∧ g a = some b) : mapMOpt f l = some ((l.filterMap g).map some) := by
  induction l with
  | nil => rfl
  | cons a t ih =>
    obtain ⟨b, h1, h2⟩ := h a (List.mem_cons_self ..)
    simp only [mapMOpt, h1, ih (fun x hx => h x (List.mem_cons_of_mem _ hx)), List.filterMap_cons, h2, List.map_cons]

theorem length_filterMap_of_some {α β : Type} (g : α → Option β) (l : List α) (h : ∀ a ∈ l, ∃ b, g a = some b) :
    (l.filterMap g).length = l.length := by
  induction l with
  | nil => rfl
  | cons a t ih =>
    obtain ⟨b, hb⟩ := h a (List.mem_cons_self ..)
    rw [List.filterMap_cons, hb, List.length_cons, List.length_cons, ih fun x hx => h x (List.mem_cons_of_mem _ hx)]
end Hv.Configs
