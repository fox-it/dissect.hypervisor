import Hv.Vmtar
import Hv.VmtarEnc
import HvProofs.Basic
import HvProofs.Outcome
namespace Hv.Vmtar
open Hv

/-- the visor positions in `VisorTarInfo.frombuf` are the ones of the vmtar header format -/
theorem positions_spec :
    magicLo = 257 ∧ magicHi = 264 ∧ offLo = 496 ∧ offHi = 500 ∧ textLo = 504 ∧ textHi = 508 ∧
    fixLo = 508 ∧ fixHi = 512 := by decide

theorem magic_spec : visorMagic = [118, 105, 115, 111, 114, 32, 32] := by decide   -- b"visor  "

theorem formats_spec : Extracted.vmtar.frombuf_formats = ["<I", "<I", "<I"] := by decide

/-- the header `VisorTarInfo.frombuf` builds from the inherited fields `b` of block `buf`: `b` plus the visor trailer -/
def visorHdr (buf : Bytes) (b : Base) : Hdr :=
  let isVisor := decide (sub buf magicLo magicHi = visorMagic)
  { name := b.name, mode := b.mode, uid := b.uid, gid := b.gid, size := b.size, mtime := b.mtime, typ := b.typ,
    linkname := b.linkname, uname := b.uname, gname := b.gname, isVisor,
    vOffset := if isVisor then leNat (sub buf offLo offHi) else 0,
    vTextPgs := if isVisor then leNat (sub buf textLo textHi) else 0,
    vFixUpPgs := if isVisor then leNat (sub buf fixLo fixHi) else 0 }

theorem frombuf_eq (aware : Bool) (buf : Bytes) : frombuf aware buf =
    if buf.length = 0 then .error .empty
    else if buf.length ≠ BLOCK then .error .truncated
    else if buf.all (· = 0) then .error .eofHeader
    else tarFields buf >>= fun b => if aware ∧ b.size < 0 then .error .invalid else .ok (visorHdr buf b) := by
  unfold frombuf
  cases tarFields buf <;> rfl

theorem frombuf_ok {aware : Bool} {buf : Bytes} {h : Hdr} (hh : frombuf aware buf = .ok h) :
    buf.length = BLOCK ∧ buf.all (· = 0) = false ∧
      ∃ b, tarFields buf = .ok b ∧ (aware = true → 0 ≤ b.size) ∧ h = visorHdr buf b := by
  rw [frombuf_eq] at hh
  obtain ⟨-, hh⟩ := ok_of_gate hh
  obtain ⟨hl, hh⟩ := ok_of_ne_gate hh
  obtain ⟨hz, hh⟩ := ok_of_gate hh
  obtain ⟨b, hb, hh⟩ := bind_ok hh
  obtain ⟨hneg, hh⟩ := ok_of_gate hh
  cases hh
  exact ⟨hl, eq_false_of_ne_true hz, b, hb, fun ha => Int.not_lt.mp fun hs => hneg ⟨ha, hs⟩, rfl⟩

theorem frombuf_visor {aware : Bool} {buf : Bytes} {h : Hdr} (hh : frombuf aware buf = .ok h) :
    h.isVisor = decide (sub buf 257 264 = visorMagic) ∧
    (h.isVisor = true → h.vOffset = leNat (sub buf 496 500) ∧ h.vTextPgs = leNat (sub buf 504 508)
        ∧ h.vFixUpPgs = leNat (sub buf 508 512)) ∧
    (aware = true → 0 ≤ h.size) ∧ buf.length = 512 := by
  obtain ⟨hl, -, b, -, hs, rfl⟩ := frombuf_ok hh
  obtain ⟨h1, h2, h3, h4, h5, h6, h7, h8⟩ := positions_spec
  simp only [visorHdr, h1, h2, h3, h4, h5, h6, h7, h8]
  exact ⟨trivial, fun hv => by simp only [hv, if_true, and_self], hs, hl⟩

theorem fromTarfile_builtin {f : File} {aware : Bool} {fuel tell : Nat} {h : Hdr}
    (hh : frombuf aware (f.read tell BLOCK) = .ok h) (hv : ¬ (aware = true ∧ h.isVisor = true ∧ h.vOffset ≠ 0))
    (hl : ¬ (h.typ = tLONGNAME ∨ h.typ = tLONGLINK)) (hx : ¬ (h.typ = tXHD ∨ h.typ = tXGL ∨ h.typ = tSOLX)) :
    fromTarfile f aware (fuel + 1) tell =
      .ok ({ hdr := h, name := if h.typ = tDIR then rstripSlash h.name else h.name, linkname := h.linkname,
             offset := tell, offsetData := ((tell + BLOCK : Nat) : Int) },
           ((tell + BLOCK : Nat) : Int) + (if isReg h.typ ∨ ¬ supported h.typ then blockI h.size else 0),
           tell + BLOCK) := by
  simp only [fromTarfile, hh, if_neg hv, if_neg hl, if_neg hx]

theorem read_full {f : File} {off : Nat} (h : (f.read off BLOCK).length = 512) : off + 512 ≤ f.size := by
  simp only [File.read, slice, BLOCK, List.length_map, List.length_range] at h
  omega

theorem read_length_le (f : File) (off len : Nat) : off + (f.read off len).length ≤ max off f.size := by
  simp only [File.read, slice, List.length_map, List.length_range]
  omega

def NoFuel {α : Type} (x : Except HErr α) : Prop := x ≠ .error .fuel

theorem ntiOct_noFuel (b : Bytes) : NoFuel (ntiOct b) :=
  iteInduction nofun fun _ => iteInduction nofun fun _ => iteInduction nofun fun _ => iteInduction nofun nofun

theorem nti_noFuel (b : Bytes) : NoFuel (nti b) := by
  cases b with
  | nil => exact nofun
  | cons h t => exact iteInduction nofun fun _ => iteInduction nofun fun _ => ntiOct_noFuel _

theorem tarFields_noFuel (buf : Bytes) : NoFuel (tarFields buf) :=
  have step {α : Type} {b : Bytes} {k : Int → Except HErr α} (h : ∀ a, NoFuel (k a)) : NoFuel (nti b >>= k) :=
    bind_ne_error (nti_noFuel b) fun a _ => h a
  step fun _ => iteInduction nofun fun _ => step fun _ => step fun _ => step fun _ => step fun _ => step fun _ =>
    step fun _ => step fun _ => iteInduction nofun nofun

theorem frombuf_noFuel (aware : Bool) (buf : Bytes) : NoFuel (frombuf aware buf) := by
  rw [frombuf_eq]
  exact iteInduction nofun fun _ => iteInduction nofun fun _ => iteInduction nofun fun _ =>
    bind_ne_error (tarFields_noFuel buf) fun _ _ => iteInduction (motive := NoFuel) nofun nofun

/-- VisorTarInfo._proc_member on a visor header that records a data offset: the member's data offset is the
    recorded one and the next header follows immediately, whatever the size field says. -/
theorem fromTarfile_visor {f : File} {fuel tell : Nat} {h : Hdr}
    (hh : frombuf true (f.read tell BLOCK) = .ok h) (hv : h.isVisor = true) (ho : h.vOffset ≠ 0) :
    fromTarfile f true (fuel + 1) tell =
      .ok ({ hdr := h, name := h.name, linkname := h.linkname, offset := tell, offsetData := h.vOffset },
           ((tell + BLOCK : Nat) : Int), tell + BLOCK) := by
  simp only [fromTarfile, hh, hv, ho, ne_eq, not_false_eq_true, and_self, if_true]

/-- What every member returned by `fromtarfile` (VisorTarInfo) satisfies. -/
structure StepOK (f : File) (tell : Nat) (m : Member) (off : Int) (t : Nat) : Prop where
  /-- progress: the next header offset and the file position are at least one block further -/
  off_ge : ((tell + 512 : Nat) : Int) ≤ off
  t_ge : tell + 512 ≤ t
  t_le : t ≤ f.size
  /-- the member's own header block sits at some `p ≥ tell` inside the file -/
  own : ∃ p, tell ≤ p ∧ p + 512 ≤ f.size ∧ frombuf true (f.read p BLOCK) = .ok m.hdr
  /-- a visor header that records a data offset decides where the data is read -/
  visor : m.hdr.isVisor = true → m.hdr.vOffset ≠ 0 → m.offsetData = (m.hdr.vOffset : Int)

/-- the invariant of `fromtarfile`: an ok result satisfies `StepOK`, and the fuel error needs fuel for fewer
    blocks than the file has left -/
def StepSpec (f : File) (fuel tell : Nat) : Except HErr (Member × Int × Nat) → Prop
  | .ok (m, off, t) => StepOK f tell m off t
  | .error e => e = .fuel → fuel ≤ (f.size - tell) / 512

theorem fromTarfile_spec (f : File) : ∀ fuel tell, StepSpec f fuel tell (fromTarfile f true fuel tell) := by
  intro fuel
  induction fuel with
  | zero => intro tell _; exact Nat.zero_le _
  | succ fuel ih =>
    intro tell
    rw [fromTarfile]
    cases hfb : frombuf true (f.read tell BLOCK) with
    | error e =>
      intro he
      exact absurd (he ▸ hfb) (frombuf_noFuel _ _)
    | ok h =>
      have hv := frombuf_visor hfb
      have hfull : tell + 512 ≤ f.size := read_full hv.2.2.2
      have hsz : 0 ≤ h.size := hv.2.2.1 rfl
      have hown : ∃ p, tell ≤ p ∧ p + 512 ≤ f.size ∧ frombuf true (f.read p BLOCK) = .ok h :=
        ⟨tell, Nat.le_refl _, hfull, hfb⟩
      have hB : BLOCK = 512 := rfl
      dsimp only
      by_cases hnv : true = true ∧ h.isVisor = true ∧ h.vOffset ≠ 0
      · -- visor header with a data offset
        rw [if_pos hnv]
        exact ⟨Int.le_refl _, Nat.le_refl _, hfull, hown, fun _ _ => rfl⟩
      rw [if_neg hnv]
      by_cases hl : h.typ = tLONGNAME ∨ h.typ = tLONGLINK
      · -- GNU long name / long link: the member is the one behind the payload
        rw [if_pos hl, if_neg (by omega)]
        have hr := ih (tell + BLOCK + (f.read (tell + BLOCK) (blockI h.size).toNat).length)
        cases hrec : fromTarfile f true fuel (tell + BLOCK + (f.read (tell + BLOCK) (blockI h.size).toNat).length) with
        | error e =>
          rw [hrec] at hr
          cases e <;> simp only [StepSpec, reduceCtorEq, false_imp_iff, forall_const]
          have := hr rfl
          omega
        | ok r =>
          obtain ⟨m, off, t⟩ := r
          rw [hrec] at hr
          obtain ⟨p, hp1, hp2, hp3⟩ := hr.own
          refine ⟨by have := hr.off_ge; omega, by have := hr.t_ge; omega, hr.t_le, ⟨p, by omega, hp2, ?_⟩, ?_⟩
          · split <;> split <;> exact hp3
          · split <;> split <;> exact hr.visor
      rw [if_neg hl]
      by_cases hx : h.typ = tXHD ∨ h.typ = tXGL ∨ h.typ = tSOLX
      · rw [if_pos hx]; exact nofun
      · -- `_proc_builtin`
        rw [if_neg hx]
        refine ⟨?_, Nat.le_refl _, hfull, hown, fun a b => absurd ⟨rfl, a, b⟩ hnv⟩
        have : 0 ≤ blockI h.size := by unfold blockI; omega
        split <;> omega

theorem fromTarfile_ok {f : File} {fuel tell : Nat} {m : Member} {off : Int} {t : Nat}
    (h : fromTarfile f true fuel tell = .ok (m, off, t)) : StepOK f tell m off t := by
  have := fromTarfile_spec f fuel tell
  rwa [h] at this

theorem listFrom_step {f : File} {aware : Bool} {fuel : Nat} {offset : Int} {tell : Nat} {acc : List Member} {r : Outcome}
    (hr : listFrom f aware (fuel + 1) offset tell acc = r) :
    (r = .readError ∨ r = .ok acc.reverse ∨ r = .unsupported) ∨
    (tell ≤ f.size → offset.toNat ≤ f.size) ∧
      ((∃ m next t, fromTarfile f aware (f.size / BLOCK + 2) offset.toNat = .ok (m, next, t) ∧
          r = listFrom f aware fuel next t (m :: acc)) ∨
        (fromTarfile f aware (f.size / BLOCK + 2) offset.toNat = .error .fuel ∧ r = .nonTermination)) := by
  subst hr
  rw [listFrom]
  by_cases hneg : offset < 0
  · rw [if_pos hneg]; exact .inl (.inl rfl)
  rw [if_neg hneg]
  dsimp only
  split
  · exact .inl (.inl rfl)
  · exact .inl (.inr (.inl rfl))
  rename_i hadv
  -- the seek succeeded: the offset is the position, or its last byte is inside the file
  have hle : tell ≤ f.size → offset.toNat ≤ f.size := by
    intro _
    split at hadv
    · split at hadv
      · cases hadv
      · split at hadv
        · omega
        · cases hadv
    · omega
  cases fromTarfile f aware (f.size / BLOCK + 2) offset.toNat with
  | ok r => exact .inr ⟨hle, .inl ⟨r.1, r.2.1, r.2.2, rfl, rfl⟩⟩
  | error e =>
    cases e
    case fuel => exact .inr ⟨hle, .inr ⟨rfl, rfl⟩⟩
    case unsupported => exact .inl (.inr (.inr rfl))
    case eofHeader => exact .inl (.inr (.inl rfl))
    case subsequent | unexpectedEnd => exact .inl (.inl rfl)
    -- empty, truncated, invalid: a read error at offset 0, the end of the archive elsewhere
    all_goals
      dsimp only
      split
      · exact .inl (.inl rfl)
      · exact .inl (.inr (.inl rfl))

theorem listFrom_members (f : File) : ∀ (fuel : Nat) (offset : Int) (tell : Nat) (acc ms : List Member),
    (∀ m ∈ acc, ∃ tell off t, StepOK f tell m off t) → listFrom f true fuel offset tell acc = .ok ms →
    ∀ m ∈ ms, ∃ tell off t, StepOK f tell m off t := by
  intro fuel
  induction fuel with
  | zero => intro offset tell acc ms _ h; cases h
  | succ fuel ih =>
    intro offset tell acc ms hacc h
    rcases listFrom_step h with (h | h | h) | ⟨-, ⟨m, next, t, hstep, h⟩ | ⟨-, h⟩⟩
    · cases h
    · cases h; exact fun m hm => hacc m (List.mem_reverse.mp hm)
    · cases h
    · refine ih _ _ _ _ (fun m' hm' => ?_) h.symm
      rcases List.mem_cons.mp hm' with rfl | hm'
      · exact ⟨_, _, _, fromTarfile_ok hstep⟩
      · exact hacc m' hm'
    · cases h

theorem fuel_step {size o n fuel : Nat} (hn : o + 512 ≤ n) (ho : o + 512 ≤ size) (hf : (size - o) / 512 + 2 ≤ fuel + 1) :
    (size - n) / 512 + 2 ≤ fuel := by
  omega

/-- outer fuel: every `next()` consumes at least one block -/
theorem listFrom_terminates (f : File) : ∀ (fuel : Nat) (offset : Int) (tell : Nat) (acc : List Member),
    tell ≤ f.size → (f.size - offset.toNat) / 512 + 2 ≤ fuel →
    listFrom f true fuel offset tell acc ≠ .nonTermination := by
  intro fuel
  induction fuel with
  | zero => intro offset tell acc _ h; omega
  | succ fuel ih =>
    intro offset tell acc htell hfuel h
    rcases listFrom_step h with (h | h | h) | ⟨hle, ⟨m, next, t, hstep, h⟩ | ⟨hstep, -⟩⟩
    · cases h
    · cases h
    · cases h
    · have r := fromTarfile_ok hstep
      exact ih _ _ _ r.t_le (fuel_step (Int.le_toNat (by have := r.off_ge; omega) |>.mpr r.off_ge)
        (Nat.le_trans r.t_ge r.t_le) hfuel) h.symm
    · -- inner fuel: one unit per header block suffices
      have h := fromTarfile_spec f (f.size / BLOCK + 2) offset.toNat
      rw [hstep] at h
      have := h rfl
      have := hle htell
      simp only [BLOCK] at *
      omega

/-- an archive none of whose blocks parses as a visor header recording a data offset (and, as in every
    archive a standard writer produces, none with a negative size) -/
def PlainArchive (f : File) : Prop :=
  ∀ p h, frombuf false (f.read p BLOCK) = .ok h → 0 ≤ h.size ∧ ¬ (h.isVisor = true ∧ h.vOffset ≠ 0)

theorem frombuf_aware_eq {buf : Bytes} (hp : ∀ h, frombuf false buf = .ok h → 0 ≤ h.size) :
    frombuf true buf = frombuf false buf := by
  rw [frombuf_eq, frombuf_eq] at *
  split
  · rfl
  split
  · rfl
  split
  · rfl
  rename_i h0 h1 h2
  rw [if_neg h0, if_neg h1, if_neg h2] at hp
  cases hb : tarFields buf with
  | error e => rfl
  | ok b =>
    rw [hb] at hp
    have := hp (visorHdr buf b) (by simp [bind, Except.bind])
    have hs : ¬ b.size < 0 := by simpa [visorHdr] using this
    simp [bind, Except.bind, hs]

theorem fromTarfile_plain (f : File) (hp : PlainArchive f) : ∀ fuel tell,
    fromTarfile f true fuel tell = fromTarfile f false fuel tell := by
  intro fuel
  induction fuel with
  | zero => intro tell; rfl
  | succ fuel ih =>
    intro tell
    simp only [fromTarfile]
    rw [frombuf_aware_eq (fun h hh => (hp tell h hh).1)]
    split
    · rfl
    · rename_i h hh
      have hnv := (hp tell h hh).2
      have e1 : ¬ (True ∧ h.isVisor = true ∧ h.vOffset ≠ 0) := fun hc => hnv hc.2
      have e2 : ¬ (False ∧ h.isVisor = true ∧ h.vOffset ≠ 0) := fun hc => hc.1
      simp only [Bool.false_eq_true]
      rw [if_neg e1, if_neg e2]
      simp only [ih]

theorem listFrom_plain (f : File) (hp : PlainArchive f) : ∀ fuel offset tell acc,
    listFrom f true fuel offset tell acc = listFrom f false fuel offset tell acc := by
  intro fuel
  induction fuel with
  | zero => intros; rfl
  | succ fuel ih =>
    intro offset tell acc
    simp only [listFrom, fromTarfile_plain f hp, ih]

/-! ### A second, hand-written header writer (`mkHdr`) and the archive `exArchive` built with it

`exBlocks_eq` ties the literal blocks of `exFile` to it; the listing of `exFile` goes through `exFile_hdr` (VmtarEnc). -/

/-- a 512-byte header block; `visor = some off` writes the visor magic and the trailer words -/
def mkHdr (name : Bytes) (size : Nat) (typ : UInt8) (visor : Option Nat) : Bytes :=
  let magic : Bytes := match visor with
    | some _ => visorMagic ++ [0]
    | none => [117, 115, 116, 97, 114, 0, 48, 48]
  let tail : Bytes := match visor with
    | some off => zeros 151 ++ leBytes 4 off ++ zeros 12
    | none => zeros 167
  let pre := name ++ zeros (100 - name.length) ++ octField 8 0o644 ++ octField 8 0 ++ octField 8 0
    ++ octField 12 size ++ octField 12 0
  let post := [typ] ++ zeros 100 ++ magic ++ zeros 80 ++ tail
  let sum := 256 + sumU pre + sumU post
  pre ++ octDigits 6 sum ++ [0, 32] ++ post

def fileOf (b : Bytes) : File := ⟨b.length, fun i => b.getD i 0⟩

/-- the example archive, block by block -/
def exArchive : Bytes :=
  mkHdr [97] 3 48 (some 2560) ++              -- 0:    visor file "a", data at 2560
  mkHdr [100, 47] 0 53 none ++                -- 512:  directory "d/"
  mkHdr [98] 2 48 none ++                     -- 1024: ustar file "b" with inline data
  ([7, 8] ++ zeros 510) ++                    -- 1536: data of "b"
  zeros 512 ++                                -- 2048: end-of-archive block
  [1, 2, 3]                                   -- 2560: data area

/-- a file given as 512-byte blocks: a byte is found through its block, not by a walk over all the bytes before it -/
def fileOfBlocks (bs : List Bytes) (size : Nat) : File :=
  ⟨size, fun i => (bs.getD (i / 512) []).getD (i % 512) 0⟩

theorem getD_pad (b : Bytes) (n i : Nat) (hi : i < n) : ((b ++ zeros n).take n).getD i 0 = b.getD i 0 := by
  simp only [List.getD_eq_getElem?_getD, List.getElem?_take, hi, if_true, List.getElem?_append, zeros]
  split
  · rfl
  · rename_i h
    simp [List.getElem?_eq_none (Nat.le_of_not_lt h), List.getElem?_replicate]
    split <;> rfl

theorem slice_fileOfBlocks (bs : List Bytes) (size k : Nat) :
    slice (fileOfBlocks bs size).byte (512 * k) 512 = (bs.getD k [] ++ zeros 512).take 512 := by
  apply List.ext_getElem
  · simp only [slice_length, List.length_take, List.length_append, zeros_length]; omega
  · intro i h1 h2
    have hi : i < 512 := by simpa using h1
    simp only [slice, List.getElem_map, List.getElem_range, fileOfBlocks]
    rw [Nat.mul_add_div (by decide), Nat.mul_add_mod, Nat.div_eq_of_lt hi, Nat.mod_eq_of_lt hi, Nat.add_zero,
      ← getD_pad _ 512 i hi, List.getD_eq_getElem?_getD, List.getElem?_eq_getElem h2]
    rfl

/-- the three header blocks of `exArchive`, evaluated -/
def exH0 : Bytes := [
  97, 0, 0, 0, 0, 0, 0, 0, 0, 0, 0, 0, 0, 0, 0, 0, 0, 0, 0, 0, 0, 0, 0, 0, 0, 0, 0, 0, 0, 0, 0, 0, 0, 0, 0, 0, 0, 0, 0, 0, 0, 0, 0, 0, 0, 0, 0, 0, 0, 0, 0, 0, 0, 0, 0, 0, 0, 0, 0, 0, 0, 0, 0, 0,
  0, 0, 0, 0, 0, 0, 0, 0, 0, 0, 0, 0, 0, 0, 0, 0, 0, 0, 0, 0, 0, 0, 0, 0, 0, 0, 0, 0, 0, 0, 0, 0, 0, 0, 0, 0, 48, 48, 48, 48, 54, 52, 52, 0, 48, 48, 48, 48, 48, 48, 48, 0, 48, 48, 48, 48, 48, 48, 48, 0, 48, 48, 48, 48,
  48, 48, 48, 48, 48, 48, 51, 0, 48, 48, 48, 48, 48, 48, 48, 48, 48, 48, 48, 0, 48, 48, 54, 48, 53, 55, 0, 32, 48, 0, 0, 0, 0, 0, 0, 0, 0, 0, 0, 0, 0, 0, 0, 0, 0, 0, 0, 0, 0, 0, 0, 0, 0, 0, 0, 0, 0, 0, 0, 0, 0, 0, 0, 0,
  0, 0, 0, 0, 0, 0, 0, 0, 0, 0, 0, 0, 0, 0, 0, 0, 0, 0, 0, 0, 0, 0, 0, 0, 0, 0, 0, 0, 0, 0, 0, 0, 0, 0, 0, 0, 0, 0, 0, 0, 0, 0, 0, 0, 0, 0, 0, 0, 0, 0, 0, 0, 0, 0, 0, 0, 0, 0, 0, 0, 0, 0, 0, 0,
  0, 118, 105, 115, 111, 114, 32, 32, 0, 0, 0, 0, 0, 0, 0, 0, 0, 0, 0, 0, 0, 0, 0, 0, 0, 0, 0, 0, 0, 0, 0, 0, 0, 0, 0, 0, 0, 0, 0, 0, 0, 0, 0, 0, 0, 0, 0, 0, 0, 0, 0, 0, 0, 0, 0, 0, 0, 0, 0, 0, 0, 0, 0, 0,
  0, 0, 0, 0, 0, 0, 0, 0, 0, 0, 0, 0, 0, 0, 0, 0, 0, 0, 0, 0, 0, 0, 0, 0, 0, 0, 0, 0, 0, 0, 0, 0, 0, 0, 0, 0, 0, 0, 0, 0, 0, 0, 0, 0, 0, 0, 0, 0, 0, 0, 0, 0, 0, 0, 0, 0, 0, 0, 0, 0, 0, 0, 0, 0,
  0, 0, 0, 0, 0, 0, 0, 0, 0, 0, 0, 0, 0, 0, 0, 0, 0, 0, 0, 0, 0, 0, 0, 0, 0, 0, 0, 0, 0, 0, 0, 0, 0, 0, 0, 0, 0, 0, 0, 0, 0, 0, 0, 0, 0, 0, 0, 0, 0, 0, 0, 0, 0, 0, 0, 0, 0, 0, 0, 0, 0, 0, 0, 0,
  0, 0, 0, 0, 0, 0, 0, 0, 0, 0, 0, 0, 0, 0, 0, 0, 0, 0, 0, 0, 0, 0, 0, 0, 0, 0, 0, 0, 0, 0, 0, 0, 0, 0, 0, 0, 0, 0, 0, 0, 0, 0, 0, 0, 0, 0, 0, 0, 0, 10, 0, 0, 0, 0, 0, 0, 0, 0, 0, 0, 0, 0, 0, 0]
def exH1 : Bytes := [
  100, 47, 0, 0, 0, 0, 0, 0, 0, 0, 0, 0, 0, 0, 0, 0, 0, 0, 0, 0, 0, 0, 0, 0, 0, 0, 0, 0, 0, 0, 0, 0, 0, 0, 0, 0, 0, 0, 0, 0, 0, 0, 0, 0, 0, 0, 0, 0, 0, 0, 0, 0, 0, 0, 0, 0, 0, 0, 0, 0, 0, 0, 0, 0,
  0, 0, 0, 0, 0, 0, 0, 0, 0, 0, 0, 0, 0, 0, 0, 0, 0, 0, 0, 0, 0, 0, 0, 0, 0, 0, 0, 0, 0, 0, 0, 0, 0, 0, 0, 0, 48, 48, 48, 48, 54, 52, 52, 0, 48, 48, 48, 48, 48, 48, 48, 0, 48, 48, 48, 48, 48, 48, 48, 0, 48, 48, 48, 48,
  48, 48, 48, 48, 48, 48, 48, 0, 48, 48, 48, 48, 48, 48, 48, 48, 48, 48, 48, 0, 48, 48, 54, 49, 54, 53, 0, 32, 53, 0, 0, 0, 0, 0, 0, 0, 0, 0, 0, 0, 0, 0, 0, 0, 0, 0, 0, 0, 0, 0, 0, 0, 0, 0, 0, 0, 0, 0, 0, 0, 0, 0, 0, 0,
  0, 0, 0, 0, 0, 0, 0, 0, 0, 0, 0, 0, 0, 0, 0, 0, 0, 0, 0, 0, 0, 0, 0, 0, 0, 0, 0, 0, 0, 0, 0, 0, 0, 0, 0, 0, 0, 0, 0, 0, 0, 0, 0, 0, 0, 0, 0, 0, 0, 0, 0, 0, 0, 0, 0, 0, 0, 0, 0, 0, 0, 0, 0, 0,
  0, 117, 115, 116, 97, 114, 0, 48, 48, 0, 0, 0, 0, 0, 0, 0, 0, 0, 0, 0, 0, 0, 0, 0, 0, 0, 0, 0, 0, 0, 0, 0, 0, 0, 0, 0, 0, 0, 0, 0, 0, 0, 0, 0, 0, 0, 0, 0, 0, 0, 0, 0, 0, 0, 0, 0, 0, 0, 0, 0, 0, 0, 0, 0,
  0, 0, 0, 0, 0, 0, 0, 0, 0, 0, 0, 0, 0, 0, 0, 0, 0, 0, 0, 0, 0, 0, 0, 0, 0, 0, 0, 0, 0, 0, 0, 0, 0, 0, 0, 0, 0, 0, 0, 0, 0, 0, 0, 0, 0, 0, 0, 0, 0, 0, 0, 0, 0, 0, 0, 0, 0, 0, 0, 0, 0, 0, 0, 0,
  0, 0, 0, 0, 0, 0, 0, 0, 0, 0, 0, 0, 0, 0, 0, 0, 0, 0, 0, 0, 0, 0, 0, 0, 0, 0, 0, 0, 0, 0, 0, 0, 0, 0, 0, 0, 0, 0, 0, 0, 0, 0, 0, 0, 0, 0, 0, 0, 0, 0, 0, 0, 0, 0, 0, 0, 0, 0, 0, 0, 0, 0, 0, 0,
  0, 0, 0, 0, 0, 0, 0, 0, 0, 0, 0, 0, 0, 0, 0, 0, 0, 0, 0, 0, 0, 0, 0, 0, 0, 0, 0, 0, 0, 0, 0, 0, 0, 0, 0, 0, 0, 0, 0, 0, 0, 0, 0, 0, 0, 0, 0, 0, 0, 0, 0, 0, 0, 0, 0, 0, 0, 0, 0, 0, 0, 0, 0, 0]
def exH2 : Bytes := [
  98, 0, 0, 0, 0, 0, 0, 0, 0, 0, 0, 0, 0, 0, 0, 0, 0, 0, 0, 0, 0, 0, 0, 0, 0, 0, 0, 0, 0, 0, 0, 0, 0, 0, 0, 0, 0, 0, 0, 0, 0, 0, 0, 0, 0, 0, 0, 0, 0, 0, 0, 0, 0, 0, 0, 0, 0, 0, 0, 0, 0, 0, 0, 0,
  0, 0, 0, 0, 0, 0, 0, 0, 0, 0, 0, 0, 0, 0, 0, 0, 0, 0, 0, 0, 0, 0, 0, 0, 0, 0, 0, 0, 0, 0, 0, 0, 0, 0, 0, 0, 48, 48, 48, 48, 54, 52, 52, 0, 48, 48, 48, 48, 48, 48, 48, 0, 48, 48, 48, 48, 48, 48, 48, 0, 48, 48, 48, 48,
  48, 48, 48, 48, 48, 48, 50, 0, 48, 48, 48, 48, 48, 48, 48, 48, 48, 48, 48, 0, 48, 48, 54, 49, 48, 49, 0, 32, 48, 0, 0, 0, 0, 0, 0, 0, 0, 0, 0, 0, 0, 0, 0, 0, 0, 0, 0, 0, 0, 0, 0, 0, 0, 0, 0, 0, 0, 0, 0, 0, 0, 0, 0, 0,
  0, 0, 0, 0, 0, 0, 0, 0, 0, 0, 0, 0, 0, 0, 0, 0, 0, 0, 0, 0, 0, 0, 0, 0, 0, 0, 0, 0, 0, 0, 0, 0, 0, 0, 0, 0, 0, 0, 0, 0, 0, 0, 0, 0, 0, 0, 0, 0, 0, 0, 0, 0, 0, 0, 0, 0, 0, 0, 0, 0, 0, 0, 0, 0,
  0, 117, 115, 116, 97, 114, 0, 48, 48, 0, 0, 0, 0, 0, 0, 0, 0, 0, 0, 0, 0, 0, 0, 0, 0, 0, 0, 0, 0, 0, 0, 0, 0, 0, 0, 0, 0, 0, 0, 0, 0, 0, 0, 0, 0, 0, 0, 0, 0, 0, 0, 0, 0, 0, 0, 0, 0, 0, 0, 0, 0, 0, 0, 0,
  0, 0, 0, 0, 0, 0, 0, 0, 0, 0, 0, 0, 0, 0, 0, 0, 0, 0, 0, 0, 0, 0, 0, 0, 0, 0, 0, 0, 0, 0, 0, 0, 0, 0, 0, 0, 0, 0, 0, 0, 0, 0, 0, 0, 0, 0, 0, 0, 0, 0, 0, 0, 0, 0, 0, 0, 0, 0, 0, 0, 0, 0, 0, 0,
  0, 0, 0, 0, 0, 0, 0, 0, 0, 0, 0, 0, 0, 0, 0, 0, 0, 0, 0, 0, 0, 0, 0, 0, 0, 0, 0, 0, 0, 0, 0, 0, 0, 0, 0, 0, 0, 0, 0, 0, 0, 0, 0, 0, 0, 0, 0, 0, 0, 0, 0, 0, 0, 0, 0, 0, 0, 0, 0, 0, 0, 0, 0, 0,
  0, 0, 0, 0, 0, 0, 0, 0, 0, 0, 0, 0, 0, 0, 0, 0, 0, 0, 0, 0, 0, 0, 0, 0, 0, 0, 0, 0, 0, 0, 0, 0, 0, 0, 0, 0, 0, 0, 0, 0, 0, 0, 0, 0, 0, 0, 0, 0, 0, 0, 0, 0, 0, 0, 0, 0, 0, 0, 0, 0, 0, 0, 0, 0]

theorem exBlocks_eq : exH0 ++ exH1 ++ exH2 ++ ([7, 8] ++ zeros 510) ++ zeros 512 ++ [1, 2, 3] = exArchive := by
  -- only the three header blocks are computed; the rest of `exArchive` is the same text
  have h : exH0 = mkHdr [97] 3 48 (some 2560) ∧ exH1 = mkHdr [100, 47] 0 53 none ∧ exH2 = mkHdr [98] 2 48 none := by
    decide +kernel
  rw [h.1, h.2.1, h.2.2, exArchive]

def exFile : File := fileOfBlocks [exH0, exH1, exH2, [7, 8], [], [1, 2, 3]] 2563

end Hv.Vmtar
