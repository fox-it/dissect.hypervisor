import Hv.Vdi
import HvProofs.BlockLoop
namespace Hv.Vdi
open Hv

section
variable (v : Vdi) (pc : Nat → UInt8)

theorem readLoop_zero (fuel a b c : Nat) : readLoop v fuel a b c 0 = .ok [] := by
  cases fuel <;> simp [readLoop]

theorem readLoop_succ (fuel blockIdx blockOff off : Nat) {len n : Nat} (hl : len ≠ 0)
    (hn : min len (v.blockSize - blockOff) = n) :
    readLoop v (fuel + 1) blockIdx blockOff off len =
      (match v.map[blockIdx]? with
       | none => .error .index
       | some block => do
         let c ← chunk v block blockOff off n
         let rest ← readLoop v fuel (blockIdx + 1) 0 (off + n) (len - n)
         .ok (c ++ rest)) := by
  subst hn
  rw [readLoop, if_neg hl]
  cases v.map[blockIdx]? <;> rfl

theorem chunk_unallocated (blockOff off n : Nat) :
    chunk v (-1) blockOff off n = match v.parent with | some p => p off n | none => .ok (zeros n) := rfl

theorem chunk_sparse (blockOff off n : Nat) : chunk v (-2) blockOff off n = .ok (zeros n) := rfl

theorem chunk_data (k blockOff off n : Nat) :
    chunk v (k : Int) blockOff off n = .ok (v.fh.read (v.dataOffset + k * v.blockSize + blockOff) n) := by
  have h1 : ¬ (k : Int) = Hv.Extracted.vdi.UNALLOCATED := by show ¬ (k : Int) = -1; omega
  have h2 : ¬ (k : Int) = Hv.Extracted.vdi.SPARSE := by show ¬ (k : Int) = -2; omega
  have hc : (v.dataOffset : Int) + (k : Int) * (v.blockSize : Int) + (blockOff : Int)
      = ((v.dataOffset + k * v.blockSize + blockOff : Nat) : Int) := by
    simp only [Int.natCast_add, Int.natCast_mul]
  rw [chunk, if_neg h1, if_neg h2, hc, if_neg (by omega), Int.toNat_natCast]

def piece (v : Vdi) (off n : Nat) : Except Err Bytes :=
  match v.map[off / v.blockSize]? with
  | some b => chunk v b (off % v.blockSize) off n
  | none => .error .index

theorem readLoop_eq (hbs : 0 < v.blockSize) : ∀ fuel off len,
    readLoop v fuel (off / v.blockSize) (off % v.blockSize) off len = blockLoop v.blockSize (piece v) fuel off len := by
  intro fuel
  induction fuel with
  | zero => intro off len; rfl
  | succ fuel ih =>
    intro off len
    by_cases hl : len = 0
    · subst hl; rw [readLoop_zero, blockLoop_zero]
    · generalize hn : min len (v.blockSize - off % v.blockSize) = n
      rw [readLoop_succ _ _ _ _ _ hl hn, blockLoop_succ _ _ hl hn, piece]
      by_cases hr : len - n = 0
      · rw [hr, readLoop_zero, blockLoop_zero]
        cases v.map[off / v.blockSize]? <;> rfl
      · -- the loop's `blockIdx + 1, 0` is the index and offset of `off + n`
        obtain ⟨e1, e2⟩ := (block_step hbs hl hn).2.2.2 hr
        rw [← ih (off + n) (len - n), e1, e2]
        cases v.map[off / v.blockSize]? <;> rfl

/-- the parent (if any) reads as the content `pc` on the child's range -/
def ParentOK (v : Vdi) (pc : Nat → UInt8) : Prop :=
  ∀ p, v.parent = some p → ∀ off len, off + len ≤ v.size → p off len = .ok (slice pc off len)

theorem guest_of_entry {i : Nat} {b : Int} (hget : v.map[i]? = some b)
    (o : Nat) (ho : o / v.blockSize = i) :
    guest v pc o = if b = -1 then (if v.parent.isSome then pc o else 0) else if b = -2 then 0
      else v.fh.byte (v.dataOffset + b.toNat * v.blockSize + o % v.blockSize) := by
  simp only [guest, ho, hget]

theorem piece_correct (hwf : WF v) (hp : ParentOK v pc) (off n : Nat)
    (h0 : 0 < n) (hn : off % v.blockSize + n ≤ v.blockSize) (hin : off + n ≤ v.size) :
    piece v off n = .ok (slice (guest v pc) off n) := by
  have hbs := hwf.bs_pos
  have hlt : off / v.blockSize < v.map.size := by
    have := hwf.covers
    apply Nat.div_lt_of_lt_mul
    rw [Nat.mul_comm]; omega
  have hget : v.map[off / v.blockSize]? = some v.map[off / v.blockSize] := by simp [hlt]
  have hg := guest_of_entry v pc hget
  rw [piece, hget]
  simp only
  rcases hwf.entries _ hlt with he | he | ⟨he0, hein⟩
  · rw [he, chunk_unallocated]
    rw [he] at hg
    cases hpar : v.parent with
    | none =>
      simp only
      rw [slice_unit_zero (g := guest v pc) hbs hn fun o ho => by rw [hg o ho]; simp [hpar]]
    | some p =>
      simp only
      rw [hp p hpar off n hin, slice_unit_congr (g := guest v pc) hbs hn fun o ho => by rw [hg o ho]; simp [hpar]]
  · rw [he, chunk_sparse]
    rw [he] at hg
    rw [slice_unit_zero (g := guest v pc) hbs hn fun o ho => by rw [hg o ho]; simp]
  · generalize v.map[off / v.blockSize] = b at *
    obtain ⟨k, rfl⟩ := Int.eq_ofNat_of_zero_le he0
    rw [Int.toNat_natCast] at hein
    rw [chunk_data, File.read_eq_slice (by rw [Nat.add_mul] at hein; omega),
      slice_unit_file (g := guest v pc) (v.dataOffset + k * v.blockSize) hbs hn fun o ho => by
        rw [hg o ho, if_neg (by omega), if_neg (by omega), Int.toNat_natCast]]

end

theorem readLoop_correct (v : Vdi) (pc : Nat → UInt8) (hwf : WF v) (hp : ParentOK v pc) :
    ∀ fuel off len, len ≤ fuel → off + len ≤ v.size →
      readLoop v fuel (off / v.blockSize) (off % v.blockSize) off len
        = .ok (slice (guest v pc) off len) := by
  intro fuel off len hf hb
  rw [readLoop_eq v hwf.bs_pos]
  simpa using blockLoop_correct (guest v pc) 1 v.size hwf.bs_pos
    (fun o n h0 hn hin => by simpa using piece_correct v pc hwf hp o n h0 hn hin) fuel off len hf hb

section
variable (v : Vdi) (pc : Nat → UInt8)

theorem read_correct (hwf : WF v) (hp : ParentOK v pc) (off len : Nat) :
    read v off len = .ok (slice (guest v pc) off (min len (v.size - off))) := by
  have hbs := hwf.bs_pos
  rw [read, if_neg (by omega)]
  by_cases h : off ≤ v.size
  · exact readLoop_correct v pc hwf hp _ off _ (Nat.le_refl _) (by omega)
  · have : min len (v.size - off) = 0 := by omega
    rw [this, readLoop_zero, slice_zero]

/-- a piece reports no more non-termination than the parent does: nothing else in it loops -/
theorem piece_progress
    (hpar : ∀ p, v.parent = some p → ∀ o l, p o l ≠ .error .nonTermination) (off n : Nat) :
    piece v off n ≠ .error .nonTermination := by
  unfold piece
  split
  · refine ite_ne_error ?_ (ite_ne_error nofun (ite_ne_error nofun nofun))
    split
    · exact hpar _ ‹_› _ _
    · nofun
  · nofun

/-- for any header / map contents: every pass of the loop serves at least one byte, and the parent, itself a terminating
    reader, is the only other loop involved -/
theorem read_progress
    (hpar : ∀ p, v.parent = some p → ∀ o l, p o l ≠ .error .nonTermination) (off len : Nat) :
    read v off len ≠ .error .nonTermination := by
  unfold read
  by_cases h : v.blockSize = 0
  · rw [if_pos h]; nofun
  · rw [if_neg h, readLoop_eq v (by omega)]
    exact blockLoop_progress (by omega) (piece_progress v hpar) _ _ _ (Nat.le_refl _)

end

theorem wfb_sound (v : Vdi) (h : wfb v = true) : WF v := by
  unfold wfb at h
  simp only [Bool.and_eq_true, decide_eq_true_eq, Array.all_eq_true, Bool.or_eq_true,
    beq_iff_eq] at h
  exact ⟨h.1.1, h.1.2, fun i hi => or_assoc.mp (h.2 i hi)⟩
end Hv.Vdi
