/-
  A fuel-free reading of the backtracking matcher `Hv.Regex.matchRe` for the constructs of `RE_EXTENT_DESCRIPTOR`.
  `Sem t r d m`: on every input `s`, with any continuation, `matchRe t f r s …` with fuel `f ≥ d + |s|` is the fuel-free
  continuation-passing matcher `m`.  The combinators `m…` mirror the constructors; the lemmas `sem_*` are compositional.
-/
import Hv.Prim.Regex
namespace Hv.Regex

/-- a continuation: rest of the input, position, captures so far ↦ final captures; `M` is a matcher in that style -/
abbrev K := List Char → Nat → Caps → Option Caps
abbrev M := List Char → Nat → Caps → K → Option Caps

def mChar (P : Char → Bool) : M := fun s pos caps k =>
  match s with
  | x :: xs => if P x then k xs (pos + 1) caps else none
  | [] => none
def mNil : M := fun s pos caps k => k s pos caps
def mSeq (a b : M) : M := fun s pos caps k => a s pos caps (fun s' p' c' => b s' p' c' k)
def mFail : M := fun _ _ _ _ => none
def mOr (a b : M) : M := fun s pos caps k =>
  match a s pos caps k with
  | some c => some c
  | none => b s pos caps k
def mGroup (i : Nat) (b : M) : M := fun s pos caps k =>
  b s pos caps (fun s' p' c' => k s' p' (setCap c' i (pos, p')))
/-- `(b)?`; the guard `p' = pos` is the matcher's "an empty iteration cannot help" (`Hv/Prim/Regex.lean`, `.rep`) -/
def mOpt (b : M) : M := fun s pos caps k =>
  match b s pos caps (fun s' p' c' => if p' = pos then none else k s' p' c') with
  | some c => some c
  | none => k s pos caps
/-- greedy `x{min,}` of a one-character class: longest run first, then shorter ones; `x+` is `min = 1`, and after the first
    character of a `x+` what is left is `min = 0`, i.e. `x*` (so used for `.+` in the quoted name) -/
def mPlus (P : Char → Bool) : Nat → List Char → Nat → Caps → K → Option Caps
  | min, [], pos, caps, k => if min = 0 then k [] pos caps else none
  | min, x :: xs, pos, caps, k =>
    match (if P x then mPlus P (min - 1) xs (pos + 1) caps k else none) with
    | some c => some c
    | none => if min = 0 then k (x :: xs) pos caps else none
def mBos : M := fun s pos caps k => if pos = 0 then k s pos caps else none
def mEos : M := fun s pos caps k => if s.isEmpty then k s pos caps else none

/-- the matcher consults its continuation only on strings that are not longer than its input.  Needed for `.seq`: the
    tail's `Sem.den` holds at fuel `f` only for inputs not longer than `s`, so the head must not hand anything longer to it -/
def Local (m : M) : Prop :=
  ∀ s pos caps k k', (∀ s' p' c', s'.length ≤ s.length → k s' p' c' = k' s' p' c') →
    m s pos caps k = m s pos caps k'

/-- `den`: with fuel at least `d` + the length of the input, `matchRe` on `r` is the fuel-free `m` (`d` = one unit per level
    of the AST below this node); `loc`: `m` is `Local`.  `sem_seq_cons` and `sem_alt_cons` want both premises at the same
    `d`; the leaf lemmas therefore conclude `Sem … (d + 1)` for every `d`, so that along an AST all depths are found by
    unification from the number at the root. -/
structure Sem (t : Tables) (r : Re) (d : Nat) (m : M) : Prop where
  den : ∀ f s pos caps k, d + s.length ≤ f → matchRe t f r s pos caps k = m s pos caps k
  loc : Local m

theorem local_char (P : Char → Bool) : Local (mChar P) := by
  intro s pos caps k k' h
  cases s with
  | nil => rfl
  | cons x xs => exact congrArg (fun r => if P x then r else none) (h xs (pos + 1) caps (by simp))

theorem local_plus (P : Char → Bool) : ∀ min, Local (mPlus P min) := by
  intro min s
  induction s generalizing min with
  | nil => intro pos caps k k' h; simp only [mPlus]; rw [h [] pos caps (Nat.le_refl _)]
  | cons x xs ih =>
    intro pos caps k k' h
    simp only [mPlus]
    rw [ih (min - 1) (pos + 1) caps k k' (fun s' p' c' hl => h s' p' c' (Nat.le_succ_of_le hl)),
      h (x :: xs) pos caps (Nat.le_refl _)]

theorem Sem.step {t : Tables} {r : Re} {d : Nat} {m : M}
    (den : ∀ f s pos caps k, d + s.length ≤ f → matchRe t (f + 1) r s pos caps k = m s pos caps k)
    (loc : Local m) : Sem t r (d + 1) m := by
  refine ⟨fun f s pos caps k hf => ?_, loc⟩
  cases f with
  | zero => omega
  | succ f => exact den f s pos caps k (by omega)

theorem Sem.mono {t : Tables} {r : Re} {d d' : Nat} {m : M} (h : Sem t r d m) (hd : d ≤ d') : Sem t r d' m :=
  ⟨fun f s pos caps k hf => h.den f s pos caps k (Nat.le_trans (Nat.add_le_add_right hd _) hf), h.loc⟩

/-- `c` is a one-character node: with any positive fuel it is `mChar P` -/
def CharRe (t : Tables) (c : Re) (P : Char → Bool) : Prop :=
  ∀ f s pos caps k, matchRe t (f + 1) c s pos caps k = mChar P s pos caps k

theorem charRe_lit (t : Tables) (c : Nat) : CharRe t (.lit c) (fun x => decide (x.toNat = c)) := by
  intro f s pos caps k
  cases s with
  | nil => rfl
  | cons x xs => simp only [mChar, decide_eq_true_eq]; rfl

theorem charRe_any (t : Tables) : CharRe t .any (fun x => decide (x.toNat ≠ 10)) := by
  intro f s pos caps k
  cases s with
  | nil => rfl
  | cons x xs => simp only [mChar, decide_eq_true_eq]; rfl

theorem charRe_cls (t : Tables) (neg : Bool) (items : List CItem) :
    CharRe t (.cls neg items) (fun x => (items.any (itemMatch t x.toNat)) != neg) := by
  intro f s pos caps k
  cases s <;> rfl

theorem sem_char {t : Tables} {c : Re} {P : Char → Bool} (h : CharRe t c P) (d : Nat) :
    Sem t c (d + 1) (mChar P) :=
  Sem.step (fun f s pos caps k _ => h f s pos caps k) (local_char P)

theorem sem_bos (t : Tables) (d : Nat) : Sem t .bos (d + 1) mBos :=
  Sem.step (fun _ _ _ _ _ _ => rfl)
    (fun s pos caps _ _ h => congrArg (fun r => if pos = 0 then r else none) (h s pos caps (Nat.le_refl _)))

theorem sem_eos (t : Tables) (d : Nat) : Sem t .eos (d + 1) mEos :=
  Sem.step (fun _ _ _ _ _ _ => rfl)
    (fun s pos caps _ _ h => congrArg (fun r => if s.isEmpty then r else none) (h s pos caps (Nat.le_refl _)))

theorem sem_seq_nil (t : Tables) (d : Nat) : Sem t (.seq []) (d + 1) mNil :=
  Sem.step (fun _ _ _ _ _ _ => rfl) (fun s pos caps _ _ h => h s pos caps (Nat.le_refl _))

theorem sem_seq_cons {t : Tables} {a : Re} {rest : List Re} {d : Nat} {ma mr : M}
    (ha : Sem t a d ma) (hr : Sem t (.seq rest) d mr) : Sem t (.seq (a :: rest)) (d + 1) (mSeq ma mr) := by
  refine Sem.step (fun f s pos caps k hf => ?_) (fun s pos caps k k' h => ?_)
  · show matchRe t f a s pos caps _ = _
    rw [ha.den f s pos caps _ hf]
    exact ha.loc s pos caps _ _ (fun s' p' c' hl => hr.den f s' p' c' k (by omega))
  · exact ha.loc s pos caps _ _ (fun s' p' c' hl =>
      hr.loc s' p' c' k k' (fun s'' p'' c'' hl' => h s'' p'' c'' (Nat.le_trans hl' hl)))

theorem sem_alt_nil (t : Tables) (d : Nat) : Sem t (.alt []) (d + 1) mFail :=
  Sem.step (fun _ _ _ _ _ _ => rfl) (fun _ _ _ _ _ _ => rfl)

theorem sem_alt_cons {t : Tables} {a : Re} {rest : List Re} {d : Nat} {ma mr : M}
    (ha : Sem t a d ma) (hr : Sem t (.alt rest) d mr) : Sem t (.alt (a :: rest)) (d + 1) (mOr ma mr) := by
  refine Sem.step (fun f s pos caps k hf => ?_) (fun s pos caps k k' h => ?_)
  · show (match matchRe t f a s pos caps k with
      | some c => some c
      | none => matchRe t f (.alt rest) s pos caps k) = _
    rw [ha.den f s pos caps k hf, hr.den f s pos caps k hf]
    rfl
  · simp only [mOr]
    rw [ha.loc s pos caps k k' h, hr.loc s pos caps k k' h]

theorem sem_group {t : Tables} {r : Re} {d : Nat} {m : M} (i : Nat)
    (hr : Sem t r d m) : Sem t (.group i r) (d + 1) (mGroup i m) :=
  Sem.step (fun f s pos caps _ hf => hr.den f s pos caps _ hf)
    (fun s pos caps _ _ h => hr.loc s pos caps _ _ (fun s' p' _ hl => h s' p' _ hl))

theorem rep_unfold (t : Tables) (f min : Nat) (max : Option Nat) (r : Re) (s : List Char) (pos : Nat) (caps : Caps) (k : K) :
    matchRe t (f + 1) (.rep min max true r) s pos caps k =
      match (if max = some 0 then none else matchRe t f r s pos caps (fun s' p' c' =>
          if p' = pos ∧ min = 0 then none else matchRe t f (.rep (min - 1) (max.map (· - 1)) true r) s' p' c' k)) with
      | some c => some c
      | none => if min = 0 then k s pos caps else none :=
  rfl

/-- `d + 2`: `(…)?` is `rep 0 (some 1)`, one level for the iteration and one for the `rep 0 (some 0)` after it -/
theorem sem_opt {t : Tables} {r : Re} {d : Nat} {m : M}
    (hr : Sem t r d m) : Sem t (.rep 0 (some 1) true r) (d + 2) (mOpt m) := by
  refine Sem.step (fun f s pos caps k hf => ?_) (fun s pos caps k k' h => ?_)
  · obtain ⟨f, rfl⟩ : ∃ f', f = f' + 1 := ⟨f - 1, by omega⟩
    -- the second iteration is `r{0,0}`, which is the continuation itself
    have e : (fun s' p' c' => if p' = pos ∧ 0 = 0 then none
          else matchRe t (f + 1) (.rep (0 - 1) ((some 1).map (· - 1)) true r) s' p' c' k)
        = (fun s' p' c' => if p' = pos then none else k s' p' c') := by
      funext s' p' c'
      simp only [and_true]
      rfl
    rw [rep_unfold, e, hr.den (f + 1) s pos caps _ (by omega)]
    rfl
  · simp only [mOpt]
    rw [h s pos caps (Nat.le_refl _), hr.loc s pos caps _ (fun s' p' c' => if p' = pos then none else k' s' p' c')
      (fun s' p' c' hl => by rw [h s' p' c' hl])]

/-- `d + 4`: the `rep`, the one-element `.seq [c]` as which the translator (`harness/extract.py`) emits the body of a
    repeat (a sub-pattern in `sre_parse`), `c`, and the empty `.seq []` behind it -/
theorem sem_plus {t : Tables} {c : Re} {P : Char → Bool} (hc : CharRe t c P) (min d : Nat) :
    Sem t (.rep min none true (.seq [c])) (d + 4) (mPlus P min) := by
  refine ⟨?_, local_plus P min⟩
  -- one round of `(?:c)+` at fuel `f + 3`: `c`, then the rest of the repetition at fuel `f + 2`
  have unfold : ∀ f min s pos caps k, matchRe t (f + 3) (.rep min none true (.seq [c])) s pos caps k =
      match mChar P s pos caps (fun s' p' c' =>
          if p' = pos ∧ min = 0 then none else matchRe t (f + 2) (.rep (min - 1) none true (.seq [c])) s' p' c' k) with
      | some c => some c
      | none => if min = 0 then k s pos caps else none :=
    fun f min s pos caps k => by rw [← hc f]; rfl
  intro f s
  induction s generalizing min f with
  | nil =>
    intro pos caps k hf
    obtain ⟨f, rfl⟩ : ∃ f', f = f' + 3 := ⟨f - 3, by omega⟩
    rw [unfold]
    rfl
  | cons x xs ih =>
    intro pos caps k hf
    obtain ⟨f, rfl⟩ : ∃ f', f = f' + 3 := ⟨f - 3, by simp only [List.length_cons] at hf; omega⟩
    rw [unfold]
    simp only [mChar, mPlus, Nat.succ_ne_self, false_and, if_false]
    rw [ih (min - 1) (f + 2) (pos + 1) caps k (by simp only [List.length_cons] at hf; omega)]

end Hv.Regex
