/-
  Footprint theorems for VMDK sparse extents (C13, I/O clause): `SparseDisk.read_sectors` — `_lookup_grain`, the run
  coalescer `get_runs` and the run reader — depends on the extent file only through its size and the bytes named by
  `Hv.Footprint.vmdk`: one grain-table entry per grain touched and the requested sectors of the allocated grains.
-/
import HvProofs.FootprintBasic
import HvProofs.Vmdk
namespace Hv.Footprint
open Hv Hv.Vmdk Hv.Extracted.vmdk

section vmdk

theorem vmdk_tableOffset_fh (v : Sparse) (f' : File) (e : Nat) :
    ({ v with fh := f' } : Sparse).tableOffset e = v.tableOffset e := rfl

theorem vmdk_newCur_fh (v : Sparse) (f' : File) (gs rs go n : Nat) :
    ({ v with fh := f' } : Sparse).newCur gs rs go n = v.newCur gs rs go n := rfl

theorem vmdk_lookupGrain_congr (v : Sparse) (f' : File) (s0 c0 g : Nat) (hs : v.fh.size = f'.size)
    (h : Agree (vmdkUnit v s0 c0 g) v.fh f') : v.lookupGrain g = ({ v with fh := f' } : Sparse).lookupGrain g := by
  unfold Sparse.lookupGrain
  show _ = (if v.gtSize = 0 then _ else _)
  by_cases hz : v.gtSize = 0
  · rw [if_pos hz, if_pos hz]
  rw [if_neg hz, if_neg hz]
  cases hgd : v.gd[g / v.gtSize]? with
  | none => rfl
  | some e =>
    simp only [vmdk_tableOffset_fh]
    cases hto : v.tableOffset e with
    | none => rfl
    | some off =>
      have hw : ({ v with fh := f' } : Sparse).entryWidth = v.entryWidth := rfl
      simp only [hw, ← hs]
      by_cases hfit : off + v.gtSize * v.entryWidth > v.fh.size
      · simp only [if_pos hfit]
        rfl
      · have htab : vmdkTable v g = some off := by simp only [vmdkTable, hz, if_false, hgd, hto, hfit]
        unfold vmdkUnit at h
        rw [htab] at h
        simp only [if_neg hfit, ← h.head.slice]
        rfl

theorem vmdk_getRunsLoop_congr (v : Sparse) (f' : File) (s0 c0 : Nat)
    (hlk : ∀ g ∈ unitsTouched v.grainSize s0 c0, v.lookupGrain g = ({ v with fh := f' } : Sparse).lookupGrain g) :
    ∀ fuel rs rc cur, At v.grainSize s0 c0 rs rc →
      v.getRunsLoop fuel rs rc cur = ({ v with fh := f' } : Sparse).getRunsLoop fuel rs rc cur := by
  intro fuel
  induction fuel with
  | zero => intro rs rc cur _; rfl
  | succ fuel ih =>
    intro rs rc cur h
    unfold Sparse.getRunsLoop
    by_cases hz : rc = 0
    · rw [if_pos hz, if_pos hz]
    show _ = (if rc = 0 then _ else if v.grainSize = 0 then _ else _)
    by_cases hg : v.grainSize = 0
    · rw [if_neg hz, if_neg hz, if_pos hg, if_pos hg]
    rw [if_neg hz, if_neg hz, if_neg hg, if_neg hg, ← hlk _ (h.mem hz)]
    refine bind_congr_ok fun gs _ => ?_
    have hn := h.next (by omega)
    simp only [vmdk_newCur_fh, ih _ _ _ hn]

theorem vmdk_lookup_table (v : Sparse) (g gs : Nat) (h : v.lookupGrain g = .ok gs) (hgs : gs ≠ 0) :
    ∃ off, vmdkTable v g = some off := by
  unfold Sparse.lookupGrain at h
  unfold vmdkTable
  by_cases hz : v.gtSize = 0
  · simp [hz] at h
  · simp only [hz, if_false] at h ⊢
    cases hgd : v.gd[g / v.gtSize]? with
    | none => simp [hgd] at h
    | some e =>
      simp only [hgd] at h ⊢
      cases hto : v.tableOffset e with
      | none => simp only [hto, Except.ok.injEq] at h; exact absurd h.symm hgs
      | some off =>
        simp only [hto, bind, Except.bind] at h ⊢
        by_cases hfit : off + v.gtSize * v.entryWidth > v.fh.size
        · simp [hfit, throw, throwThe, MonadExceptOf.throw] at h
        · simp only [hfit, if_false]
          exact ⟨off, rfl⟩

theorem vmdk_chunk_within (v : Sparse) (s0 c0 rs rc gs : Nat) (h : At v.grainSize s0 c0 rs rc) (hpos : 0 < v.grainSize)
    (hrc : rc ≠ 0) (hl : v.lookupGrain (rs / v.grainSize) = .ok gs) (hgs : 1 < gs) :
    Within ((unitsTouched v.grainSize s0 c0).flatMap (vmdkUnit v s0 c0)) ((gs + rs % v.grainSize) * 512)
      (min rc (v.grainSize - rs % v.grainSize) * 512) := by
  refine Within.unit (h.mem hrc) (Within.of_mem ?_)
  obtain ⟨off, hoff⟩ := vmdk_lookup_table v _ gs hl (by omega)
  unfold vmdkUnit vmdkData
  rw [hoff, hl, h.part hpos hrc]
  dsimp only
  rw [if_neg (by omega)]
  exact List.mem_cons_of_mem _ (List.mem_singleton.2 rfl)

/-- the pending run of `get_runs`: an allocated run's sectors lie inside the footprint `F` and, while the request goes
    on, the run ends on the grain boundary `next` -/
def vmdkCurOK (F : Ranges) (rc : Nat) : Option Cur → Prop
  | none => True
  | some c => 1 < c.type →
      Within F ((c.type + c.offset) * 512) (c.count * 512) ∧ (rc = 0 ∨ c.next = c.type + c.offset + c.count)

theorem vmdk_flush_within {F : Ranges} {rc : Nat} {cur : Option Cur} (hc : vmdkCurOK F rc cur) :
    ∀ r ∈ flush cur, 1 < r.type → Within F ((r.type + r.offset) * 512) (r.count * 512) := by
  intro r hr ht
  cases cur with
  | none => cases hr
  | some c =>
    cases List.mem_singleton.1 hr
    exact (hc ht).1

/-- one iteration of `get_runs` keeps the invariant: the piece of an allocated grain starts a run or continues the
    pending one at the grain boundary where that one ends; the run it finishes was the pending one -/
theorem vmdk_stepCur_within (v : Sparse) (F : Ranges) (gs rs rc n : Nat) (cur : Option Cur) (hG : 0 < v.grainSize)
    (hrc : rc ≠ 0) (hn : min rc (v.grainSize - rs % v.grainSize) = n) (hal : cur ≠ none → rs % v.grainSize = 0)
    (hcur : vmdkCurOK F rc cur) (hchunk : 1 < gs → Within F ((gs + rs % v.grainSize) * 512) (n * 512)) :
    (∀ r ∈ (stepCur v gs rs n cur).1, 1 < r.type → Within F ((r.type + r.offset) * 512) (r.count * 512)) ∧
      vmdkCurOK F (rc - n) (some (stepCur v gs rs n cur).2) := by
  obtain ⟨_, hle, hin, _⟩ := block_step hG hrc hn
  have hnew : vmdkCurOK F (rc - n) (some (v.newCur gs rs (rs % v.grainSize) n)) := by
    intro ht
    have hgs : 1 < gs := by
      unfold Sparse.newCur at ht
      split at ht
      · exact absurd ht (Nat.not_lt_zero 1)
      split at ht
      · exact absurd ht (Nat.lt_irrefl 1)
      · exact ht
    rw [newCur_big v gs rs _ n hgs]
    exact ⟨hchunk hgs, by dsimp only; omega⟩
  cases cur with
  | none => exact ⟨nofun, hnew⟩
  | some c =>
    have hal := hal nofun
    by_cases hm1 : (c.type = 0 ∧ gs = 0) ∨ (c.type = 1 ∧ gs = 1)
    · simp only [stepCur, if_pos hm1]
      refine ⟨nofun, fun hh => ?_⟩
      dsimp only at hh
      omega
    by_cases hm : c.type > 1 ∧ gs = c.next
    · simp only [stepCur, if_neg hm1, if_pos hm]
      obtain ⟨hc1, hc2⟩ := hcur hm.1
      have hch := hchunk (by omega)
      rw [hal, Nat.add_zero, hm.2, hc2.resolve_left hrc, Nat.add_mul _ c.count] at hch
      refine ⟨nofun, fun _ => ⟨?_, by dsimp only; omega⟩⟩
      dsimp only
      rw [Nat.add_mul c.count]
      exact hc1.append hch
    · simp only [stepCur, if_neg hm1, if_neg hm]
      exact ⟨fun r hr => by cases List.mem_singleton.1 hr; exact fun ht => (hcur ht).1, hnew⟩

/-- every allocated run `get_runs` produces lies inside the footprint: a run is a sequence of chunks of consecutive
    grains -/
theorem vmdk_getRuns_within (v : Sparse) (s0 c0 : Nat) :
    ∀ fuel rs rc cur runs, At v.grainSize s0 c0 rs rc → (cur ≠ none → s0 < rs) →
      vmdkCurOK ((unitsTouched v.grainSize s0 c0).flatMap (vmdkUnit v s0 c0)) rc cur →
      v.getRunsLoop fuel rs rc cur = .ok runs →
      ∀ r ∈ runs, 1 < r.type →
        Within ((unitsTouched v.grainSize s0 c0).flatMap (vmdkUnit v s0 c0)) ((r.type + r.offset) * 512) (r.count * 512) := by
  intro fuel
  induction fuel with
  | zero =>
    intro rs rc cur runs _ _ hcur h
    unfold Sparse.getRunsLoop at h
    split at h
    · cases h
      exact (vmdk_flush_within hcur)
    · cases h
  | succ fuel ih =>
    intro rs rc cur runs hat hlt hcur h
    by_cases hz : rc = 0
    · rw [hz, getRunsLoop_zero] at h
      cases h
      exact vmdk_flush_within hcur
    by_cases hg : v.grainSize = 0
    · rw [Sparse.getRunsLoop, if_neg hz, if_pos hg] at h
      cases h
    have hpos : 0 < v.grainSize := by omega
    rw [getRunsLoop_succ v fuel rs rc _ cur hz hg rfl] at h
    obtain ⟨gs, hl, h⟩ := bind_ok h
    obtain ⟨rest, hrest, h⟩ := bind_ok h
    cases h
    have hal : cur ≠ none → rs % v.grainSize = 0 := fun hc => by
      have := hat.al; have := hlt hc; omega
    obtain ⟨h1, h2⟩ := vmdk_stepCur_within v _ gs rs rc _ cur hpos hz rfl hal hcur
      (vmdk_chunk_within v s0 c0 rs rc gs hat hpos hz hl)
    intro r hr
    rcases List.mem_append.1 hr with hr | hr
    · exact h1 r hr
    · exact ih _ _ _ rest (hat.next hpos) (fun _ => by have := hat.lo; have := Nat.mod_lt rs hpos; omega) h2 hrest r hr

theorem vmdk_execRuns_congr (v : Sparse) (f' : File) (hs : v.fh.size = f'.size)
    (hunc : v.flags &&& SPARSEFLAG_COMPRESSED = 0) :
    ∀ runs, (∀ r ∈ runs, 1 < r.type → EqOn ((r.type + r.offset) * 512) (r.count * 512) v.fh f') →
      v.execRuns runs = ({ v with fh := f' } : Sparse).execRuns runs := by
  intro runs
  induction runs with
  | nil => intro _; rfl
  | cons r rest ih =>
    intro h
    unfold Sparse.execRuns
    have hd : v.runData r = ({ v with fh := f' } : Sparse).runData r := by
      unfold Sparse.runData
      refine ite_congr rfl (fun _ => rfl) fun h0 => ite_congr rfl (fun _ => rfl) fun h1 => ?_
      rw [if_pos hunc, if_pos hunc]
      exact congrArg _ (File.read_congr hs (h r (List.mem_cons_self ..) (by omega)))
    rw [hd, ih (fun r' hr' => h r' (List.mem_cons_of_mem _ hr'))]

theorem vmdk_read_footprint (v : Sparse) (f' : File) (sector count : Nat)
    (hunc : v.flags &&& SPARSEFLAG_COMPRESSED = 0) (hag : AgreeOn (vmdk v sector count) v.fh f') :
    v.readSectors sector count = ({ v with fh := f' } : Sparse).readSectors sector count := by
  unfold Sparse.readSectors Sparse.getRuns
  by_cases hc : count = 0
  · rw [if_pos hc, if_pos hc]
    exact bind_congr_ok fun _ ha => by cases ha; rfl
  have hso : ({ v with fh := f' } : Sparse).sectorOffset = v.sectorOffset := rfl
  rw [if_neg hc, if_neg hc, hso, ← vmdk_getRunsLoop_congr v f' _ _
    (fun g hg => vmdk_lookupGrain_congr v f' _ _ g hag.size (hag.agree.unit hg)) count _ count none (At.start ..)]
  refine bind_congr_ok fun runs hr => vmdk_execRuns_congr v f' hag.size hunc runs fun r hrm ht => hag.agree.within ?_
  exact vmdk_getRuns_within v _ _ count _ count none runs (At.start ..) (fun h => absurd rfl h) trivial hr r hrm ht

theorem vmdkUnit_total (v : Sparse) (sector count g : Nat) :
    total (vmdkUnit v sector count g) ≤ (partIn v.grainSize sector count g).2 * 512 + 8 := by
  have : v.entryWidth ≤ 8 := by unfold Sparse.entryWidth; split <;> omega
  unfold vmdkUnit vmdkData
  split
  · simp [total]
  · rw [total_cons]
    split
    · split
      · simp only [total_nil]; omega
      · simp only [total_cons, total_nil, S_eq]; omega
    · simp only [total_nil]; omega

theorem vmdkUnit_inside (v : Sparse) (sector count g : Nat) (hgs : 0 < v.grainSize) (hlo : sector / v.grainSize ≤ g)
    (r : Nat × Nat) (hrg : r ∈ vmdkUnit v sector count g) :
    ∃ off, vmdkTable v g = some off ∧ (r = (off + (g % v.gtSize) * v.entryWidth, v.entryWidth) ∨
      ∃ gsec, v.lookupGrain g = .ok gsec ∧ 1 < gsec ∧ gsec * 512 ≤ r.1 ∧ r.1 + r.2 ≤ (gsec + v.grainSize) * 512) := by
  unfold vmdkUnit at hrg
  cases htab : vmdkTable v g with
  | none => simp [htab] at hrg
  | some off =>
    simp only [htab, List.mem_cons] at hrg
    refine ⟨off, rfl, ?_⟩
    rcases hrg with hrg | hrg
    · exact Or.inl hrg
    · right
      unfold vmdkData at hrg
      cases hl : v.lookupGrain g with
      | error e => simp [hl] at hrg
      | ok gsec =>
        simp only [hl] at hrg
        by_cases h01 : gsec = 0 ∨ gsec = 1
        · simp [h01] at hrg
        · simp only [h01, if_false, List.mem_singleton] at hrg
          have hin := partIn_inside v.grainSize sector count g hgs hlo
          generalize partIn v.grainSize sector count g = pp at *
          subst hrg
          refine ⟨gsec, rfl, by omega, ?_, ?_⟩
          · show gsec * 512 ≤ (gsec + pp.1) * S
            rw [S_eq]; omega
          · show (gsec + pp.1) * S + pp.2 * S ≤ _
            rw [S_eq]; omega

/-- the narrow footprint is contained in what the real code transfers (whole tables) -/
theorem vmdk_sub_vmdkIO (v : Sparse) (sector count : Nat) (hgt : 0 < v.gtSize) (r : Nat × Nat) (hr : r ∈ vmdk v sector count) :
    ∃ r' ∈ vmdkIO v sector count, r'.1 ≤ r.1 ∧ r.1 + r.2 ≤ r'.1 + r'.2 := by
  unfold vmdk at hr
  simp only [List.mem_flatMap] at hr
  obtain ⟨g, hg, hrg⟩ := hr
  unfold vmdkUnit at hrg
  cases htab : vmdkTable v g with
  | none => simp [htab] at hrg
  | some off =>
    simp only [htab, List.mem_cons] at hrg
    have hmem : ∀ x, x ∈ vmdkUnitIO v (sector - v.sectorOffset) count g → x ∈ vmdkIO v sector count := by
      intro x hx
      unfold vmdkIO
      rw [List.mem_flatMap]
      exact ⟨g, hg, hx⟩
    rcases hrg with hrg | hrg
    · refine ⟨(off, v.gtSize * v.entryWidth), hmem _ (by simp [vmdkUnitIO, htab]), ?_⟩
      subst hrg
      have hm := Nat.mod_lt g hgt
      have : (g % v.gtSize + 1) * v.entryWidth ≤ v.gtSize * v.entryWidth := Nat.mul_le_mul_right _ hm
      rw [Nat.add_mul, Nat.one_mul] at this
      simp only
      omega
    · exact ⟨r, hmem _ (by simp [vmdkUnitIO, htab, hrg]), Nat.le_refl _, Nat.le_refl _⟩

end vmdk

/-! objects for the non-vacuity examples of `HvProps/C13.lean`: a hosted sparse extent with 2 grains of 8 sectors whose
    grain table sits at sector 2^31 (byte 2^40) and whose second grain sits at sector 0xC0000000 (byte 1.5 · 2^40) -/
def exVmdkFile (g : Nat → UInt8) : File :=
  ⟨2 ^ 42, fun p => if p = 2 ^ 40 + 7 then 0xC0 else if 2 ^ 40 ≤ p ∧ p < 2 ^ 40 + 8 then 0
    else if 1649267442176 ≤ p ∧ p < 1649267443200 then UInt8.ofNat p else g p⟩
def exVmdk : Sparse :=
  { fh := exVmdkFile (fun p => UInt8.ofNat p), kind := .hosted, flags := 0, capacity := 16, grainSize := 8, gtSize := 512,
    gd := #[2 ^ 31], grainTablesOffset := 0, grainsOffset := 0, sectorOffset := 0, parent := none,
    inflate := fun _ _ => .error .other }

theorem exVmdk_footprint : vmdk exVmdk 9 2 = [(2 ^ 40 + 4, 4), ((0xC0000000 + 1) * 512, 2 * 512)] := by decide

/-- on the ranges of the footprint of `exVmdk.readSectors 9 2` the example files do not depend on `g` -/
theorem exVmdkFile_byte (g g' : Nat → UInt8) (p : Nat)
    (hp : (2 ^ 40 + 4 ≤ p ∧ p < 2 ^ 40 + 4 + 4) ∨ ((0xC0000000 + 1) * 512 ≤ p ∧ p < (0xC0000000 + 1) * 512 + 2 * 512)) :
    (exVmdkFile g).byte p = (exVmdkFile g').byte p := by
  refine ite_else_congr fun _ => ite_else_congr fun _ => ite_else_congr fun _ => ?_
  omega

end Hv.Footprint
