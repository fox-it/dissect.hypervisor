/- Lemmas for C18: element trees and the `.//tag` paths of `VBox.disks` and `PVS.disks`. -/
import Hv.Configs
namespace Hv.Configs
open Hv.XPath

/-- `Desc e r`: `e` is a proper descendant of `r` -/
inductive Desc : Xml → Xml → Prop where
  | child {e r : Xml} : e ∈ r.children → Desc e r
  | step {e c r : Xml} : c ∈ r.children → Desc e c → Desc e r

theorem desc_iff (e r : Xml) : Desc e r ↔ ∃ c ∈ r.children, e = c ∨ Desc e c := by
  constructor
  · rintro (hc | ⟨hc, hd⟩)
    · exact ⟨e, hc, .inl rfl⟩
    · exact ⟨_, hc, .inr hd⟩
  · rintro ⟨c, hc, rfl | hd⟩
    · exact .child hc
    · exact .step hc hd

theorem Xml.iter_eq (e : Xml) : e.iter = e :: iterL e.children := by
  cases e; simp [Xml.iter, Xml.children]

mutual
theorem mem_iter_iff (r e : Xml) : e ∈ r.iter ↔ e = r ∨ Desc e r := by
  cases r with
  | node t a cs x tl => rw [Xml.iter, List.mem_cons, mem_iterL_iff cs e, desc_iff]; rfl
theorem mem_iterL_iff (cs : List Xml) (e : Xml) : e ∈ iterL cs ↔ ∃ c ∈ cs, e = c ∨ Desc e c := by
  cases cs with
  | nil => simp [iterL]
  | cons c cs => simp [iterL, mem_iter_iff c e, mem_iterL_iff cs e]
end

/-- proper descendants = what `.//` walks -/
theorem mem_iterL_children (r e : Xml) : e ∈ iterL r.children ↔ Desc e r := by
  rw [mem_iterL_iff, desc_iff]

/-! A document-order walk written by structural recursion (`spec` on an element, `specL` on a list of siblings, as `vboxSpec` /
    `vboxSpecL` and `pvsSpec` / `pvsSpecL` below are; `h1`–`h3` are their defining equations) collects what `filterMap g`
    collects from `Element.iter()`. -/
mutual
theorem filterMap_iter {β : Type} (g : Xml → Option β) (spec : Xml → List β) (specL : List Xml → List β)
    (h1 : ∀ t a cs x tl, spec (.node t a cs x tl) = (g (.node t a cs x tl)).toList ++ specL cs)
    (h2 : specL [] = []) (h3 : ∀ c cs, specL (c :: cs) = spec c ++ specL cs) (e : Xml) :
    e.iter.filterMap g = spec e := by
  cases e with
  | node t a cs x tl =>
    rw [h1, Xml.iter, List.filterMap_cons]
    rw [filterMap_iterL g spec specL h1 h2 h3 cs]
    cases g (.node t a cs x tl) <;> simp
theorem filterMap_iterL {β : Type} (g : Xml → Option β) (spec : Xml → List β) (specL : List Xml → List β)
    (h1 : ∀ t a cs x tl, spec (.node t a cs x tl) = (g (.node t a cs x tl)).toList ++ specL cs)
    (h2 : specL [] = []) (h3 : ∀ c cs, specL (c :: cs) = spec c ++ specL cs) (cs : List Xml) :
    (iterL cs).filterMap g = specL cs := by
  cases cs with
  | nil => simp [iterL, h2]
  | cons c cs =>
    rw [iterL, List.filterMap_append, filterMap_iter g spec specL h1 h2 h3 c,
      filterMap_iterL g spec specL h1 h2 h3 cs, h3]
end

theorem mem_filterMap_descendants {β : Type} (g : Xml → Option β) (root : Xml) (l : β) :
    l ∈ (iterL root.children).filterMap g ↔ ∃ e, Desc e root ∧ g e = some l := by
  simp only [List.mem_filterMap, mem_iterL_children]

theorem findall_self_desc (tag : Str) (rest : List Step) (root : Xml) :
    findall (.self :: .desc tag :: rest) root = run rest ((iterL root.children).filter (fun c => c.tag = tag)) := by
  simp only [findall, run, select, List.flatMap_cons, List.flatMap_nil, List.append_nil, descendantsTagged]

/-- The loop of `VBox.disks` and `PVS.disks`: the path selects the elements passing `q`, the body `f` raises (`none`), skips
    (`some none`) or yields; if on the selected elements it yields exactly what `sel` picks (`h1`) and `sel` picks nothing
    elsewhere (`h2`), the loop never raises and yields `filterMap sel` of all elements. -/
theorem pick_filter {α β : Type} (f : α → Option (Option β)) (sel : α → Option β) (q : α → Bool)
    (h1 : ∀ a, q a = true → f a = some (sel a)) (h2 : ∀ a, q a = false → sel a = none) (l : List α) :
    (mapMOpt f (l.filter q)).map (fun r => r.filterMap id) = some (l.filterMap sel) := by
  induction l with
  | nil => rfl
  | cons a t ih =>
    cases hq : q a with
    | false => rw [List.filter_cons, hq, List.filterMap_cons, h2 a hq]; exact ih
    | true =>
      rw [List.filter_cons, hq, if_pos rfl, mapMOpt, h1 a hq, List.filterMap_cons]
      -- `ih` says what the loop yields on the tail: both sides put `sel a` (kept if it is `some`) in front of that
      grind

/-- specification of one element: the location of a `HardDisk` of type Normal whose format is VDI in any case -/
def vboxSel (C : Cfg) (V : VboxCfg) (tag aType normal : Str) (e : Xml) : Option Str :=
  if e.tag = tag ∧ e.get aType = some normal ∧ (∃ f, e.get V.aFormat = some f ∧ f ≠ [] ∧ lower C f = V.vdi)
  then e.get V.aLocation else none

mutual
/-- document-order walk of a subtree collecting the selected locations -/
def vboxSpec (C : Cfg) (V : VboxCfg) (tag aType normal : Str) : Xml → List Str
  | .node t a cs x tl => (vboxSel C V tag aType normal (.node t a cs x tl)).toList ++ vboxSpecL C V tag aType normal cs
def vboxSpecL (C : Cfg) (V : VboxCfg) (tag aType normal : Str) : List Xml → List Str
  | [] => []
  | c :: cs => vboxSpec C V tag aType normal c ++ vboxSpecL C V tag aType normal cs
end

section
variable (C : Cfg) (V : VboxCfg) (tag aType normal : Str)

theorem vboxSel_eq_some (e : Xml) (l : Str) :
    vboxSel C V tag aType normal e = some l ↔
      e.tag = tag ∧ e.get aType = some normal ∧ (∃ f, e.get V.aFormat = some f ∧ f ≠ [] ∧ lower C f = V.vdi) ∧
      e.get V.aLocation = some l := by
  unfold vboxSel
  constructor
  · intro h
    split at h
    · rename_i hc; exact ⟨hc.1, hc.2.1, hc.2.2, h⟩
    · cases h
  · rintro ⟨a, b, c, d⟩
    rw [if_pos ⟨a, b, c⟩, d]

theorem vboxSpecL_eq (cs : List Xml) :
    vboxSpecL C V tag aType normal cs = (iterL cs).filterMap (vboxSel C V tag aType normal) :=
  (filterMap_iterL _ (vboxSpec C V tag aType normal) (vboxSpecL C V tag aType normal)
    (fun _ _ _ _ _ => by rw [vboxSpec]) (by rw [vboxSpecL]) (fun _ _ => by rw [vboxSpecL]) cs).symm

variable {tag aType normal}

/-- on the elements the path selects the loop body computes `vboxSel`, which rejects all other elements -/
theorem vboxDisks_eq
    (hs : V.steps = [.self, .desc tag, .hasAttr V.aLocation, .attrEq aType normal]) (root : Xml) :
    vboxDisks C V root = some (vboxSpecL C V tag aType normal root.children) := by
  rw [vboxDisks, hs, findall_self_desc, vboxSpecL_eq]
  simp only [run, select, List.filter_filter]
  apply pick_filter
  · intro e hq
    simp only [Bool.and_eq_true, decide_eq_true_eq] at hq
    obtain ⟨h3, h2, h1⟩ := hq
    obtain ⟨loc, hloc⟩ := Option.isSome_iff_exists.1 h2
    cases h4 : e.get V.aFormat with
    | none => simp [vboxPick, vboxSel, h4]
    | some f => by_cases h5 : f ≠ [] ∧ lower C f = V.vdi <;> simp [vboxPick, vboxSel, h4, h5, hloc, h3, h1]
  · intro e hq
    unfold vboxSel
    split
    · rename_i h
      cases h2 : e.get V.aLocation with
      | none => rfl
      | some loc => simp [h.1, h.2.1, h2] at hq
    · rfl

theorem mem_vboxDisks
    (hs : V.steps = [.self, .desc tag, .hasAttr V.aLocation, .attrEq aType normal]) (root : Xml) (l : Str) :
    (∃ r, vboxDisks C V root = some r ∧ l ∈ r) ↔ ∃ e, Desc e root ∧ vboxSel C V tag aType normal e = some l := by
  simp only [vboxDisks_eq C V hs, vboxSpecL_eq, Option.some.injEq, exists_eq_left', mem_filterMap_descendants]

end

/-- specification of one element: the text of the first `SystemName` child of an `Hdd` element -/
def pvsSel (tag name : Str) (e : Xml) : Option (Option Str) :=
  if e.tag = tag then (find name e).map Xml.text else none

theorem pvsSel_eq_some (tag name : Str) (e : Xml) (l : Option Str) :
    pvsSel tag name e = some l ↔ e.tag = tag ∧ ∃ s, find name e = some s ∧ s.text = l := by
  unfold pvsSel
  split <;> simp_all

mutual
def pvsSpec (tag name : Str) : Xml → List (Option Str)
  | .node t a cs x tl => (pvsSel tag name (.node t a cs x tl)).toList ++ pvsSpecL tag name cs
def pvsSpecL (tag name : Str) : List Xml → List (Option Str)
  | [] => []
  | c :: cs => pvsSpec tag name c ++ pvsSpecL tag name cs
end

theorem pvsSpecL_eq (tag name : Str) (cs : List Xml) :
    pvsSpecL tag name cs = (iterL cs).filterMap (pvsSel tag name) :=
  (filterMap_iterL _ (pvsSpec tag name) (pvsSpecL tag name)
    (fun _ _ _ _ _ => by rw [pvsSpec]) (by rw [pvsSpecL]) (fun _ _ => by rw [pvsSpecL]) cs).symm

theorem pvsPick_eq (P : PvsCfg) (name : Str) (hn : P.nameSteps = [.child name]) (e : Xml) :
    pvsPick P e = some ((find name e).map Xml.text) := by
  simp only [pvsPick, findall, hn, run, select, List.flatMap_cons, List.flatMap_nil, List.append_nil, find, childrenTagged]
  rw [← List.head?_filter]
  cases List.filter (fun c => decide (c.tag = name)) e.children <;> rfl

theorem pvsDisks_eq (P : PvsCfg) (tag name : Str) (hs : P.steps = [.self, .desc tag]) (hn : P.nameSteps = [.child name])
    (root : Xml) : pvsDisks P root = some (pvsSpecL tag name root.children) := by
  rw [pvsDisks, hs, findall_self_desc, pvsSpecL_eq]
  apply pick_filter
  · intro e hq
    simp only [decide_eq_true_eq] at hq
    simp [pvsPick_eq P name hn, pvsSel, hq]
  · intro e hq
    simp only [decide_eq_false_iff_not] at hq
    simp [pvsSel, hq]

theorem mem_pvsDisks (P : PvsCfg) (tag name : Str) (hs : P.steps = [.self, .desc tag]) (hn : P.nameSteps = [.child name])
    (root : Xml) (l : Option Str) :
    (∃ r, pvsDisks P root = some r ∧ l ∈ r) ↔
      ∃ e, Desc e root ∧ e.tag = tag ∧ ∃ s, find name e = some s ∧ s.text = l := by
  simp only [pvsDisks_eq P tag name hs hn, pvsSpecL_eq, Option.some.injEq, exists_eq_left', mem_filterMap_descendants,
    pvsSel_eq_some]

end Hv.Configs
