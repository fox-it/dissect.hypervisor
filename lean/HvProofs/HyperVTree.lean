/- The tree assembly of the Hyper-V reader (`childrenOf`, `treeOf`, `asDict`): the fuel suffices for arbitrary parent
   references; entries that store a tree are assembled to it (`tree_decode_of_load`). -/
import HvProofs.HyperV
namespace Hv.HyperV
open Hv Hv.Extracted.hyperv

theorem mapE_eq_mapM {α β : Type} (g : α → Except Err β) : ∀ (l : List α), mapE g l = l.mapM g
  | [] => rfl
  | a :: r => by
    rw [List.mapM_cons, ← mapE_eq_mapM g r, mapE]
    cases g a
    · rfl
    · cases mapE g r <;> rfl

theorem halts_mapE {α β : Type} (g : α → Except Err β) (l : List α) (h : ∀ a ∈ l, Halts (g a)) : Halts (mapE g l) := by
  rw [mapE_eq_mapM]; exact mapM_ne_error h

theorem mapE_ok_mem {α β : Type} (g : α → Except Err β) : ∀ (l : List α) (bs : List β), mapE g l = .ok bs →
    ∀ b ∈ bs, ∃ a ∈ l, g a = .ok b
  | [], bs, h, b, hb => by cases h; cases hb
  | a :: r, bs, h, b, hb => by
    unfold mapE at h
    split at h
    · cases h
    · rename_i b0 h0
      split at h
      · cases h
      · rename_i bs' hr
        cases h
        rcases List.mem_cons.1 hb with rfl | hb
        · exact ⟨a, by simp, h0⟩
        · obtain ⟨a', ha', h'⟩ := mapE_ok_mem g r bs' hr b hb
          exact ⟨a', by simp [ha'], h'⟩

theorem mapE_eq_ok {α β : Type} (g : α → Except Err β) (h : α → β) (l : List α) (hl : ∀ a ∈ l, g a = .ok (h a)) :
    mapE g l = .ok (l.map h) := by
  rw [mapE_eq_mapM]; simpa using mapM_map_ok (g := id) hl

theorem mapE_congr {α β : Type} (g g' : α → Except Err β) (l : List α) (h : ∀ a ∈ l, g a = g' a) : mapE g l = mapE g' l := by
  rw [mapE_eq_mapM, mapE_eq_mapM]; exact mapM_congr h

theorem mem_dictSet (k : Bytes) (v : Link) (d : List (Bytes × Link)) (kv : Bytes × Link) (h : kv ∈ dictSet k v d) :
    kv = (k, v) ∨ kv ∈ d := by
  induction d with
  | nil => simpa [dictSet] using h
  | cons p r ih =>
    simp only [dictSet] at h
    split at h
    · exact (List.mem_cons.1 h).imp_right (List.mem_cons_of_mem _)
    · rcases List.mem_cons.1 h with h | h
      · exact .inr (h ▸ List.mem_cons_self ..)
      · exact (ih h).imp_right (List.mem_cons_of_mem _)

theorem mem_foldl_dictSet (ls : List Link) : ∀ (d : List (Bytes × Link)) (kv : Bytes × Link),
    kv ∈ ls.foldl (fun d l => dictSet l.key l d) d → kv ∈ d ∨ (kv.2 ∈ ls ∧ kv.1 = kv.2.key) := by
  induction ls with
  | nil => intro d kv h; exact .inl h
  | cons l r ih =>
    intro d kv h
    simp only [List.foldl_cons] at h
    rcases ih _ kv h with h | h
    · rcases mem_dictSet _ _ _ _ h with h | h
      · subst h; exact .inr ⟨by simp, rfl⟩
      · exact .inl h
    · exact .inr ⟨by simp [h.1], h.2⟩

theorem mem_childrenOf (links : List Link) (p : Option Ref) (kv : Bytes × Link) (h : kv ∈ childrenOf links p) :
    kv.2 ∈ links ∧ kv.2.parent = p ∧ kv.1 = kv.2.key := by
  unfold childrenOf at h
  rcases mem_foldl_dictSet _ [] kv h with h | h
  · cases h
  · have := List.mem_filter.1 h.1
    exact ⟨this.1, by simpa using this.2, h.2⟩


theorem decodeValue_halts (ty : Nat) (isFo : Bool) (d : Bytes) : Halts (decodeValue ty isFo d) := by
  have hu : ∀ fmt n d, Halts (unpack fmt n d) := fun fmt n d => by unfold unpack; split <;> simp
  have hd : ∀ b, Halts (decodeUtf16 b) := fun b => by unfold decodeUtf16; split <;> simp
  simp [decodeValue, hu, hd]

theorem valueOf_halts (f : File) (fos : List (Nat × Nat)) (e : Entry) : Halts (valueOf f fos e) := by
  have he : Halts (entryData f fos e) := by
    unfold entryData
    simp only [halts_ite, halts_ok, halts_error]
    split <;> simp
  unfold valueOf
  split
  next _ herr => exact he.of_error herr
  · exact decodeValue_halts _ _ _

/-! ### depth of a link below the root: `Anc`, unique under `UniqueRefs`, less than the number of links -/

def refOf (l : Link) : Ref := (l.idx, l.entry.offset)

/-- an entry reference (table index, offset) names one link -/
def UniqueRefs (links : List Link) : Prop := ∀ a ∈ links, ∀ b ∈ links, refOf a = refOf b → a = b

/-- `Anc links d l`: following parent references from `l` reaches the root after `d` steps -/
inductive Anc (links : List Link) : Nat → Link → Prop
  | root (l : Link) : l ∈ links → l.parent = none → Anc links 0 l
  | step (l p : Link) (d : Nat) : l ∈ links → Anc links d p → l.parent = some (refOf p) → Anc links (d + 1) l

theorem Anc.mem {links : List Link} {d : Nat} {l : Link} (h : Anc links d l) : l ∈ links := by
  cases h <;> assumption

theorem Anc.unique {links : List Link} (hu : UniqueRefs links) : ∀ {d : Nat} {l : Link}, Anc links d l → ∀ {d' : Nat}, Anc links d' l → d = d' := by
  intro d l h
  induction h with
  | root l _ hp =>
    intro d' h'
    cases h' with
    | root => rfl
    | step _ p _ _ _ hp' => rw [hp] at hp'; cases hp'
  | step l p d _ hpa hp ih =>
    intro d' h'
    cases h' with
    | root _ _ hp' => rw [hp] at hp'; cases hp'
    | step _ p' d'' _ hpa' hp' =>
      rw [hp] at hp'
      have : p = p' := hu p hpa.mem p' hpa'.mem (by simpa using hp')
      subst this
      rw [ih hpa']

/-- the root path of `l`: one link at every depth `0 … d` (used for the pigeonhole in `Anc.depth_lt`) -/
theorem Anc.chain {links : List Link} : ∀ {d : Nat} {l : Link}, Anc links d l →
    ∃ ch : List Link, ch.length = d + 1 ∧ ∀ i (hi : i < ch.length), Anc links i ch[i] := by
  intro d l h
  induction h with
  | root l hm hp => exact ⟨[l], rfl, fun i hi => by
      have : i = 0 := by simpa using hi
      subst this; exact Anc.root l hm hp⟩
  | step l p d hm hpa hp ih =>
    obtain ⟨ch, hl, hc⟩ := ih
    refine ⟨ch ++ [l], by simp [hl], ?_⟩
    intro i hi
    by_cases h1 : i < ch.length
    · rw [List.getElem_append_left h1]; exact hc i h1
    · have : i = d + 1 := by simp [hl] at hi; omega
      subst this
      rw [List.getElem_append_right (by omega)]
      simp [hl]
      exact Anc.step l p d hm hpa hp

/-- root paths do not repeat a link: depth < number of links -/
theorem Anc.depth_lt {links : List Link} (hu : UniqueRefs links) {d : Nat} {l : Link} (h : Anc links d l) : d < links.length := by
  obtain ⟨ch, hl, hc⟩ := h.chain
  have hn : ch.Nodup := by
    rw [List.Nodup, List.pairwise_iff_getElem]
    intro i j hi hj hij heq
    have := Anc.unique hu (hc i hi) (heq ▸ hc j hj)
    omega
  have hs : ch ⊆ links := by
    intro a ha
    obtain ⟨i, hi, rfl⟩ := List.getElem_of_mem ha
    exact (hc i hi).mem
  have := List.Nodup.length_le_of_subset hn hs
  omega


/-- the function `treeOf` maps over a `children` dict -/
def childStep (f : File) (fos : List (Nat × Nat)) (links : List Link) (fuel : Nat) (kc : Bytes × Link) : Except Err (Bytes × Tree) :=
  match treeOf f fos links fuel kc.2 with
  | .error x => .error x
  | .ok t => .ok (kc.1, t)

theorem treeOf_succ (f : File) (fos : List (Nat × Nat)) (links : List Link) (fuel : Nat) (l : Link) :
    treeOf f fos links (fuel + 1) l =
      if l.entry.kind = tNode then
        match mapE (childStep f fos links fuel) (childrenOf links (some (l.idx, l.entry.offset))) with
        | .error x => .error x
        | .ok cs => .ok (.node cs)
      else match valueOf f fos l.entry with
        | .error x => .error x
        | .ok v => .ok (.leaf v) := by
  rfl

theorem childStep_halts {f : File} {fos : List (Nat × Nat)} {links : List Link} {fuel : Nat} {kc : Bytes × Link}
    (h : Halts (treeOf f fos links fuel kc.2)) : Halts (childStep f fos links fuel kc) := by
  unfold childStep
  split
  next _ herr => exact h.of_error herr
  · simp

/-- a link `d` steps below the root needs at most `#links − d` more levels: root paths do not repeat a link -/
theorem treeOf_halts (f : File) (fos : List (Nat × Nat)) (links : List Link) (hu : UniqueRefs links) :
    ∀ fuel d l, Anc links d l → links.length ≤ fuel + d → Halts (treeOf f fos links fuel l)
  | 0, d, l, ha, hle => by have := ha.depth_lt hu; omega
  | fuel + 1, d, l, ha, hle => by
    rw [treeOf_succ]
    split
    · split
      next _ herr =>
        refine (halts_mapE _ _ fun kc hkc => childStep_halts ?_).of_error herr
        have hm := mem_childrenOf links _ kc hkc
        exact treeOf_halts f fos links hu fuel (d + 1) kc.2 (Anc.step kc.2 l d hm.1 ha hm.2.1) (by omega)
      · simp
    · split
      next _ herr => exact (valueOf_halts f fos l.entry).of_error herr
      · simp


/-- the link an entry of table `i` becomes -/
def linkOf (kts : List (Nat × List KeyTable)) (i : Nat) (e : Entry) : Except Err Link :=
  match parentOf kts e with
  | .error x => .error x
  | .ok p => match keyOf e with
    | .error x => .error x
    | .ok k => .ok { parent := p, key := k, idx := i, entry := e }

theorem linkEntries_eq_mapE (kts : List (Nat × List KeyTable)) (i : Nat) : ∀ es, linkEntries kts i es = mapE (linkOf kts i) (nonFree es)
  | [] => rfl
  | e :: es => by
    unfold linkEntries
    by_cases hf : e.kind = tFree
    · rw [if_pos hf, linkEntries_eq_mapE kts i es, show nonFree (e :: es) = nonFree es by simp [nonFree, hf]]
    · rw [if_neg hf, linkEntries_eq_mapE kts i es, show nonFree (e :: es) = e :: nonFree es by simp [nonFree, hf]]
      cases hp : parentOf kts e <;> cases hk : keyOf e <;> simp [mapE, linkOf, hp, hk]
      cases mapE (linkOf kts i) (nonFree es) <;> rfl

/-- the links of the first table of an index -/
def linkTable (kts : List (Nat × List KeyTable)) (p : Nat × List KeyTable) : Except Err (List Link) :=
  match p.2 with
  | [] => .error .index
  | t :: _ => linkEntries kts p.1 t.entries

theorem linkAll_eq_mapE (kts : List (Nat × List KeyTable)) : ∀ kts', linkAll kts kts' = (mapE (linkTable kts) kts').map List.flatten
  | [] => rfl
  | (_, []) :: _ => rfl
  | (i, t :: _) :: r => by
    simp only [linkAll, mapE, linkTable, linkAll_eq_mapE kts r]
    cases linkEntries kts i t.entries <;> cases mapE (linkTable kts) r <;> rfl

theorem linkAll_mem (kts : List (Nat × List KeyTable)) (kts' : List (Nat × List KeyTable)) (links : List Link)
    (h : linkAll kts kts' = .ok links) : ∀ l ∈ links, ∃ t rest, (l.idx, t :: rest) ∈ kts' ∧ l.entry ∈ t.entries ∧
      parentOf kts l.entry = .ok l.parent ∧ keyOf l.entry = .ok l.key := by
  intro l hl
  rw [linkAll_eq_mapE] at h
  cases hm : mapE (linkTable kts) kts' with
  | error x => rw [hm] at h; cases h
  | ok lss =>
    rw [hm] at h; cases h
    obtain ⟨ls, hls, hl⟩ := List.mem_flatten.1 hl
    obtain ⟨⟨i, ts⟩, hp, hls⟩ := mapE_ok_mem _ _ _ hm ls hls
    cases ts with
    | nil => cases hls
    | cons t rest =>
      simp only [linkTable, linkEntries_eq_mapE] at hls
      obtain ⟨e, he, hle⟩ := mapE_ok_mem _ _ _ hls l hl
      unfold linkOf at hle
      split at hle
      · cases hle
      · split at hle <;> cases hle
        exact ⟨t, rest, hp, (List.mem_filter.1 he).1, ‹_›, ‹_›⟩

def OffsetsInc (es : List Entry) : Prop := es.Pairwise (fun a b => a.offset < b.offset)

/-- registry shape: one list per index, every table's entries at strictly increasing offsets -/
def RegOK (kts : List (Nat × List KeyTable)) : Prop :=
  (kts.map Prod.fst).Nodup ∧ ∀ p ∈ kts, ∀ t ∈ p.2, OffsetsInc t.entries

theorem eq_of_offset_eq {es : List Entry} (h : OffsetsInc es) {a b : Entry} (ha : a ∈ es) (hb : b ∈ es) (e : a.offset = b.offset) : a = b := by
  induction es with
  | nil => cases ha
  | cons x r ih =>
    simp only [OffsetsInc, List.pairwise_cons] at h
    simp only [List.mem_cons] at ha hb
    rcases ha with ha | ha <;> rcases hb with hb | hb
    · rw [ha, hb]
    · subst ha; have := h.1 b hb; omega
    · subst hb; have := h.1 a ha; omega
    · exact ih h.2 ha hb

/-- one table per index, one entry per offset: the reference fixes the entry, and parent and key are functions of the entry -/
theorem linkAll_uniqueRefs (kts kts' : List (Nat × List KeyTable)) (hk : RegOK kts') (links : List Link)
    (h : linkAll kts kts' = .ok links) : UniqueRefs links := by
  intro a ha b hb hab
  obtain ⟨ta, ra, a1, a2, a3, a4⟩ := linkAll_mem kts kts' links h a ha
  obtain ⟨tb, rb, b1, b2, b3, b4⟩ := linkAll_mem kts kts' links h b hb
  simp only [refOf, Prod.mk.injEq] at hab
  rw [← hab.1] at b1
  have hl := (lookup_of_mem _ hk.1 _ _ a1).symm.trans (lookup_of_mem _ hk.1 _ _ b1)
  simp only [Option.some.injEq, List.cons.injEq] at hl
  have he : a.entry = b.entry := eq_of_offset_eq (hk.2 _ a1 ta (by simp)) a2 (hl.1 ▸ b2) hab.2
  rw [he, b3] at a3
  rw [he, b4] at a4
  -- field by field: parent (a3), key (a4), table index (hab), entry (he)
  obtain ⟨pa, ka, ia, ea⟩ := a
  obtain ⟨pb, kb, ib, eb⟩ := b
  simp only at he hab a3 a4
  obtain ⟨rfl, _⟩ := hab
  subst he
  cases a3; cases a4
  rfl


/-! ### the registry of a file that loads is `registerAll` of parsed tables (`Parsed`), hence `RegOK` -/

theorem walkEntries_inc : ∀ (fuel : Nat) (rest : Bytes) (off size : Nat) (es : List Entry),
    walkEntries fuel rest off size = .ok es → OffsetsInc es ∧ ∀ e ∈ es, off ≤ e.offset
  | 0, rest, off, size, es, h => by
    simp only [walkEntries] at h
    split at h <;> cases h
    exact ⟨.nil, nofun⟩
  | fuel + 1, rest, off, size, es, h => by
    unfold walkEntries at h
    split at h
    · cases h; exact ⟨.nil, nofun⟩
    · split at h
      · cases h
      · rename_i e he
        split at h
        · cases h; exact ⟨.nil, nofun⟩
        · split at h
          · cases h
          · rename_i es' hes
            cases h
            obtain ⟨h1, h2⟩ := walkEntries_inc _ _ _ _ _ hes
            have ho : e.offset = off := by unfold parseEntry at he; split at he <;> cases he; rfl
            have hlt : ∀ x ∈ es', e.offset < x.offset := fun x hx => by have := h2 x hx; omega
            refine ⟨List.pairwise_cons.2 ⟨hlt, h1⟩, fun x hx => ?_⟩
            rcases List.mem_cons.1 hx with rfl | hx
            · omega
            · have := hlt x hx; omega

theorem parseKeyTable_inc (raw : Bytes) (size : Nat) (t : KeyTable) (h : parseKeyTable raw size = .ok t) : OffsetsInc t.entries := by
  unfold parseKeyTable at h
  split at h
  · cases h
  · split at h
    · cases h
    · split at h
      · cases h
      · cases h; exact (walkEntries_inc _ _ _ _ _ ‹_›).1

/-- the registry holds tables the entry loop produced, registered one after the other -/
def Parsed (kts : List (Nat × List KeyTable)) : Prop := ∃ ts, kts = registerAll ts ∧ ∀ t ∈ ts, OffsetsInc t.entries

theorem Parsed.regOK {kts : List (Nat × List KeyTable)} (h : Parsed kts) : RegOK kts := by
  obtain ⟨ts, rfl, hinc⟩ := h
  exact ⟨registerAll_nodup ts, fun p hp t ht => hinc t ((registerAll_mem ts hp).2 t ht).1⟩

theorem stepReg_keyTables {f : File} {e : ObjEntry} {r r' : Reg} (h : stepReg f e r = .ok r') : r'.keyTables = r.keyTables ∨
    ∃ t, parseKeyTable (f.read e.offset e.size) e.size = .ok t ∧ r'.keyTables = register t r.keyTables := by
  obtain ⟨r1, h1, h⟩ := bind_ok h
  obtain ⟨r2, h2, h⟩ := bind_ok h
  have e2 : r2.keyTables = r1.keyTables := by
    by_cases c : e.typ = otFile
    · rw [if_pos c] at h2; cases h2; rfl
    · rw [if_neg c] at h2; cases h2; rfl
  have e3 : r' = r2 := by
    by_cases c : e.typ = otReplayLog
    · rw [if_pos c] at h
      cases hc : checkReplayLog f e.offset <;> rw [hc] at h <;> cases h
      rfl
    · rw [if_neg c] at h; cases h; rfl
  rw [e3, e2]
  by_cases c : e.typ = otKeyTable
  · rw [if_pos c] at h1
    cases hp : parseKeyTable (f.read e.offset e.size) e.size <;> rw [hp] at h1 <;> cases h1
    exact .inr ⟨_, rfl, rfl⟩
  · rw [if_neg c] at h1; cases h1; exact .inl rfl

theorem stepObj_reg (f : File) (e : ObjEntry) (w w' : Walk) (h : stepObj f e w = .ok w') : w'.reg = w.reg := by
  unfold stepObj at h
  split at h
  · split at h <;> cases h
    rfl
  · cases h; rfl

/-- the one property of the three carried through `walkTables` (`walkTables_halts`, `walkTables_sim`) that is an invariant of
    the walk state alone -/
theorem walkTables_Parsed (f : File) : ∀ (fuel : Nat) (w : Walk) (r : Reg), Parsed w.reg.keyTables → walkTables f fuel w = .ok r →
    Parsed r.keyTables
  | 0, w, r, hr, h => by
    unfold walkTables at h
    split at h <;> cases h
    exact hr
  | fuel + 1, w, r, hr, h => by
    unfold walkTables at h
    split at h
    · cases h; exact hr
    · rename_i es rest _
      split at h
      · cases h
      · rename_i w' h1
        refine walkTables_Parsed f fuel w' r ?_ h
        refine stepEntries_inv f (fun w => Parsed w.reg.keyTables) (fun e w w1 hw h => stepObj_reg f e w w1 h ▸ hw)
          (fun e w r hw h => ?_) es { w with pending := rest } w' hr h1
        obtain ⟨ts, hts, hinc⟩ := hw
        rcases stepReg_keyTables h with e | ⟨t, ht, e⟩
        · exact ⟨ts, e ▸ hts, hinc⟩
        · refine ⟨ts ++ [t], by rw [registerAll_snoc, ← hts]; exact e, fun u hu => ?_⟩
          rcases List.mem_append.1 hu with hu | hu
          · exact hinc u hu
          · rw [List.mem_singleton.1 hu]; exact parseKeyTable_inc _ _ _ ht

theorem load_ok {f : File} {r : Reg} (h : load f = .ok r) :
    ∃ h1 h2 es, parseHeader f FIRST_HEADER_OFFSET = .ok h1 ∧ parseHeader f SECOND_HEADER_OFFSET = .ok h2 ∧
      (chooseHeader h1 h2).signature = SIGNATURE_STORAGE_HEADER ∧ (chooseHeader h1 h2).version = VERSION ∧
      checkReplayLog f (chooseHeader h1 h2).replayLogOffset = .ok () ∧
      loadObjectTable f OBJECT_TABLE_OFFSET = .ok es ∧
      walkTables f (walkFuel f) { visited := [OBJECT_TABLE_OFFSET], pending := [es], reg := {} } = .ok r := by
  unfold load at h
  obtain ⟨h1, e1, h⟩ := bind_ok h
  obtain ⟨h2, e2, h⟩ := bind_ok h
  obtain ⟨hsig, h⟩ := ok_of_ne_gate h
  obtain ⟨hver, h⟩ := ok_of_ne_gate h
  obtain ⟨_, e3, h⟩ := bind_ok h
  obtain ⟨es, e4, h⟩ := bind_ok h
  exact ⟨h1, h2, es, e1, e2, hsig, hver, e3, e4, h⟩

theorem load_Parsed (f : File) (r : Reg) (h : load f = .ok r) : Parsed r.keyTables := by
  obtain ⟨_, _, es, _, _, _, _, _, _, h⟩ := load_ok h
  exact walkTables_Parsed f _ _ r ⟨[], rfl, nofun⟩ h


/-! ### `openFile`, `as_dict` and the typed walk halt; the root level (`rootA`, `rootT`, `dictOf`) -/

theorem linkOf_halts (kts : List (Nat × List KeyTable)) (i : Nat) (e : Entry) : Halts (linkOf kts i e) := by
  have hp : Halts (parentOf kts e) := by
    unfold parentOf
    split
    · simp
    · split <;> simp
  have hk : Halts (keyOf e) := by simp [keyOf]
  unfold linkOf
  split
  next _ herr => exact hp.of_error herr
  · split
    next _ herr => exact hk.of_error herr
    · simp

theorem linkAll_halts (kts kts' : List (Nat × List KeyTable)) : Halts (linkAll kts kts') := by
  rw [linkAll_eq_mapE, halts_map]
  refine halts_mapE _ _ fun p _ => ?_
  unfold linkTable
  split
  · simp
  · rw [linkEntries_eq_mapE]; exact halts_mapE _ _ fun e _ => linkOf_halts kts _ e

theorem openFile_halts (f : File) : Halts (openFile f) := by
  unfold openFile
  split
  next _ herr => exact (load_halts f).of_error herr
  · split
    next _ herr => exact (linkAll_halts _ _).of_error herr
    · simp

theorem openFile_uniqueRefs (f : File) (L : Loaded) (h : openFile f = .ok L) : UniqueRefs L.links := by
  unfold openFile at h
  split at h
  · cases h
  · rename_i reg hl
    split at h
    · cases h
    · rename_i links hk
      cases h
      exact linkAll_uniqueRefs _ _ (load_Parsed f reg hl).regOK links hk

/-- the root-level step of `asDict` (root entries must be nodes) -/
def rootA (f : File) (L : Loaded) (kc : Bytes × Link) : Except Err (Bytes × Tree) :=
  if kc.2.entry.kind ≠ tNode then .error .other else
  match treeOf f L.reg.fileObjects L.links (L.links.length + 1) kc.2 with
  | .error x => .error x
  | .ok t => .ok (kc.1, t)

/-- the root-level step of `typedTree` -/
def rootT (f : File) (L : Loaded) (kc : Bytes × Link) : Except Err (Bytes × Tree) :=
  match treeOf f L.reg.fileObjects L.links (L.links.length + 1) kc.2 with
  | .error x => .error x
  | .ok t => .ok (kc.1, t)

def dictOf (L : Loaded) (g : Bytes × Link → Except Err (Bytes × Tree)) : Except Err Tree :=
  match mapE g (childrenOf L.links none) with
  | .error x => .error x
  | .ok cs => .ok (.node cs)

theorem asDict_eq (f : File) : asDict f = match openFile f with | .error x => .error x | .ok L => dictOf L (rootA f L) := by
  unfold asDict
  cases openFile f <;> rfl

theorem typedTree_eq (f : File) : typedTree f = match openFile f with | .error x => .error x | .ok L => dictOf L (rootT f L) := by
  unfold typedTree
  cases openFile f <;> rfl

/-- the root entries are 0 steps below the root: fuel `#links + 1` is enough for each of them -/
theorem root_halts (f : File) (L : Loaded) (hu : UniqueRefs L.links) (kc : Bytes × Link) (hkc : kc ∈ childrenOf L.links none) :
    Halts (treeOf f L.reg.fileObjects L.links (L.links.length + 1) kc.2) :=
  have hm := mem_childrenOf L.links none kc hkc
  treeOf_halts f _ L.links hu _ 0 kc.2 (Anc.root kc.2 hm.1 hm.2.1) (by omega)

theorem dictOf_halts (f : File) (L : Loaded) (hu : UniqueRefs L.links) (g : Bytes × Link → Except Err (Bytes × Tree))
    (hg : ∀ kc, Halts (treeOf f L.reg.fileObjects L.links (L.links.length + 1) kc.2) → Halts (g kc)) : Halts (dictOf L g) := by
  unfold dictOf
  split
  next _ herr => exact (halts_mapE g _ fun kc hkc => hg kc (root_halts f L hu kc hkc)).of_error herr
  · simp

theorem rootA_halts {f : File} {L : Loaded} {kc : Bytes × Link}
    (h : Halts (treeOf f L.reg.fileObjects L.links (L.links.length + 1) kc.2)) : Halts (rootA f L kc) := by
  unfold rootA
  split
  · simp
  · exact childStep_halts h

/-! ### a link represents a tree (`RepT`): then `treeOf` returns it, if its fuel lasts -/

/-- `RepT t l`: the sub-structure hanging below link `l` is the tree `t` (children in dict order).  It speaks of links and
    `childrenOf`; `EncT` of the entries of a read file; `encTb` (HyperVEnc) of a description before any file exists -/
def RepT (f : File) (fos : List (Nat × Nat)) (links : List Link) : Tree → Link → Prop
  | .leaf v, l => l.entry.kind ≠ tNode ∧ valueOf f fos l.entry = .ok v
  | .node cs, l => l.entry.kind = tNode ∧ RepL cs (childrenOf links (some (l.idx, l.entry.offset)))
where RepL : List (Bytes × Tree) → List (Bytes × Link) → Prop
  | [], kls => kls = []
  | (k, t) :: cs, kls => ∃ l rest, kls = (k, l) :: rest ∧ RepT f fos links t l ∧ RepL cs rest

/-- the list half of `treeOf_of_rep`: a `children` dict that represents `cs` (`RepL`) is mapped to `cs` by the recursive calls
    (`childStep`), given the claim `ih` for those calls at this fuel -/
theorem mapE_children (f : File) (fos : List (Nat × Nat)) (links : List Link) (fuel : Nat)
    (ih : ∀ t l, RepT f fos links t l → Halts (treeOf f fos links fuel l) → treeOf f fos links fuel l = .ok t) :
    ∀ (cs : List (Bytes × Tree)) (kls : List (Bytes × Link)), RepT.RepL f fos links cs kls →
      Halts (mapE (childStep f fos links fuel) kls) → mapE (childStep f fos links fuel) kls = .ok cs
  | [], kls, h, _ => by simp only [RepT.RepL] at h; subst h; rfl
  | (k, t) :: cs, kls, h, hn => by
    simp only [RepT.RepL] at h
    obtain ⟨l, rest, rfl, ht, hr⟩ := h
    unfold mapE at hn ⊢
    have h2 := ih t l ht fun hc => hn (by simp [childStep, hc])
    have hs : childStep f fos links fuel (k, l) = .ok (k, t) := by simp [childStep, h2]
    rw [hs] at hn ⊢
    simp only [] at hn ⊢
    rw [mapE_children f fos links fuel ih cs rest hr fun hc => hn (by rw [hc])]

theorem treeOf_of_rep (f : File) (fos : List (Nat × Nat)) (links : List Link) : ∀ fuel t l, RepT f fos links t l →
    Halts (treeOf f fos links fuel l) → treeOf f fos links fuel l = .ok t
  | 0, _, _, _, h => absurd rfl h
  | fuel + 1, t, l, hr, hn => by
    rw [treeOf_succ] at hn ⊢
    cases t with
    | leaf v =>
      simp only [RepT] at hr
      rw [if_neg hr.1, hr.2]
    | node cs =>
      simp only [RepT] at hr
      rw [if_pos hr.1] at hn ⊢
      rw [mapE_children f fos links fuel (treeOf_of_rep f fos links fuel) cs _ hr.2 fun hc => hn (by rw [hc])]

theorem RepL_mem (f : File) (fos : List (Nat × Nat)) (links : List Link) : ∀ (cs : List (Bytes × Tree)) (kls : List (Bytes × Link)),
    RepT.RepL f fos links cs kls → ∀ kc ∈ kls, ∃ t, (kc.1, t) ∈ cs ∧ RepT f fos links t kc.2 := by
  intro cs
  induction cs with
  | nil => intro kls h kc hkc; simp only [RepT.RepL] at h; subst h; cases hkc
  | cons c cs ih =>
    obtain ⟨k, t⟩ := c
    intro kls h kc hkc
    simp only [RepT.RepL] at h
    obtain ⟨l, rest, rfl, ht, hr⟩ := h
    simp only [List.mem_cons] at hkc
    rcases hkc with rfl | hkc
    · exact ⟨t, by simp, ht⟩
    · obtain ⟨t', h1, h2⟩ := ih rest hr kc hkc
      exact ⟨t', by simp [h1], h2⟩

theorem dictOf_of_rep (f : File) (L : Loaded) (hu : UniqueRefs L.links) (cs : List (Bytes × Tree))
    (hr : RepT.RepL f L.reg.fileObjects L.links cs (childrenOf L.links none)) :
    dictOf L (rootT f L) = .ok (.node cs) ∧
    ((∀ kt ∈ cs, ∃ cs', kt.2 = .node cs') → dictOf L (rootA f L) = .ok (.node cs)) := by
  have hstep : rootT f L = childStep f L.reg.fileObjects L.links (L.links.length + 1) := by funext kc; rfl
  have hn : Halts (mapE (childStep f L.reg.fileObjects L.links (L.links.length + 1)) (childrenOf L.links none)) :=
    halts_mapE _ _ fun kc hkc => childStep_halts (root_halts f L hu kc hkc)
  have hT := mapE_children f L.reg.fileObjects L.links (L.links.length + 1)
    (treeOf_of_rep f L.reg.fileObjects L.links (L.links.length + 1)) cs _ hr hn
  refine ⟨by unfold dictOf; rw [hstep, hT], ?_⟩
  intro hnodes
  have hA : mapE (rootA f L) (childrenOf L.links none) = mapE (rootT f L) (childrenOf L.links none) := by
    apply mapE_congr
    intro kc hkc
    obtain ⟨t, h1, h2⟩ := RepL_mem f _ _ cs _ hr kc hkc
    obtain ⟨cs', h3⟩ := hnodes _ h1
    simp only at h3
    subst h3
    simp only [RepT] at h2
    unfold rootA
    rw [if_neg (by simp [h2.1])]
    rfl
  unfold dictOf
  rw [hA, hstep, hT]


/-- the key of an entry; `[]` for an undecodable key: what is proved of `mkLink` means something only under `Linkable` -/
def keyD (e : Entry) : Bytes := match keyOf e with | .ok k => k | .error _ => []

def mkLink (ie : Nat × Entry) : Link := { parent := pref ie.2, key := keyD ie.2, idx := ie.1, entry := ie.2 }

/-- all linkable entries (table index, entry) of the active tables, in linking order -/
def allEntries : List (Nat × List KeyTable) → List (Nat × Entry)
  | [] => []
  | (_, []) :: r => allEntries r
  | (i, t :: _) :: r => (nonFree t.entries).map (fun e => (i, e)) ++ allEntries r

/-- every linkable entry has a resolvable parent reference and a decodable key -/
def Linkable (kts : List (Nat × List KeyTable)) (ies : List (Nat × Entry)) : Prop :=
  ∀ ie ∈ ies, parentOf kts ie.2 = .ok (pref ie.2) ∧ ∃ k, keyOf ie.2 = .ok k

theorem linkEntries_eq (kts : List (Nat × List KeyTable)) (i : Nat) (es : List Entry)
    (h : Linkable kts ((nonFree es).map (fun e => (i, e)))) : linkEntries kts i es = .ok (((nonFree es).map (fun e => (i, e))).map mkLink) := by
  rw [linkEntries_eq_mapE, List.map_map]
  refine mapE_eq_ok _ _ _ fun e he => ?_
  obtain ⟨hp, k, hk⟩ := h (i, e) (List.mem_map_of_mem he)
  simp only at hp hk
  simp [linkOf, hp, hk, mkLink, keyD]

theorem linkAll_eq (kts : List (Nat × List KeyTable)) : ∀ (kts' : List (Nat × List KeyTable)),
    (∀ p ∈ kts', p.2 ≠ []) → Linkable kts (allEntries kts') → linkAll kts kts' = .ok ((allEntries kts').map mkLink) := by
  intro kts'
  induction kts' with
  | nil => intro _ _; rfl
  | cons p r ih =>
    obtain ⟨i, ts⟩ := p
    intro hne h
    cases ts with
    | nil => exact absurd rfl (hne (i, []) (by simp))
    | cons t rest =>
      simp only [allEntries] at h ⊢
      simp only [linkAll]
      rw [linkEntries_eq kts i t.entries (fun ie hie => h ie (List.mem_append.2 (.inl hie)))]
      simp only []
      rw [ih (fun q hq => hne q (by simp [hq])) (fun ie hie => h ie (List.mem_append.2 (.inr hie)))]
      simp

theorem dictSet_fresh (k : Bytes) (v : Link) : ∀ (d : List (Bytes × Link)), k ∉ d.map Prod.fst → dictSet k v d = d ++ [(k, v)] := by
  intro d
  induction d with
  | nil => intro _; rfl
  | cons p r ih =>
    obtain ⟨k', v'⟩ := p
    intro h
    simp only [List.map_cons, List.mem_cons, not_or] at h
    simp only [dictSet]
    rw [if_neg (fun e => h.1 e.symm), ih h.2]
    rfl

theorem foldl_dictSet_nodup : ∀ (ls : List Link) (d : List (Bytes × Link)), (d.map Prod.fst ++ ls.map Link.key).Nodup →
    ls.foldl (fun d l => dictSet l.key l d) d = d ++ ls.map (fun l => (l.key, l)) := by
  intro ls
  induction ls with
  | nil => intro d _; simp
  | cons l r ih =>
    intro d h
    have hk : l.key ∉ d.map Prod.fst := by
      intro hc
      have := (List.nodup_append.1 h).2.2 _ hc l.key (by simp)
      exact this rfl
    simp only [List.foldl_cons]
    rw [dictSet_fresh l.key l d hk, ih]
    · simp
    · have e : (d ++ [(l.key, l)]).map Prod.fst ++ r.map Link.key = d.map Prod.fst ++ (l :: r).map Link.key := by simp
      rw [e]; exact h

theorem childrenOf_nodup (links : List Link) (p : Option Ref) (h : ((links.filter (fun l => l.parent = p)).map Link.key).Nodup) :
    childrenOf links p = (links.filter (fun l => l.parent = p)).map (fun l => (l.key, l)) := by
  unfold childrenOf
  rw [foldl_dictSet_nodup _ [] (by simpa using h)]
  simp


/-! ### entries that store a tree (`EncT`) give links that represent it; `tree_decode_of_load` -/

/-- `EncT all t ie`: among the linkable entries `all` of the active tables, entry `ie` (table index, entry) stores the
    tree `t`: a value entry decoding to `v`, or a Node entry whose children — exactly the entries whose parent reference
    is `ie`'s (table index, offset), wherever they are stored — carry the keys of `t`'s children (distinct) and store them.
    The `Prop` counterpart, on a `File`, of the decidable `encTb` (`encTb_sound`) -/
def EncT (f : File) (fos : List (Nat × Nat)) (all : List (Nat × Entry)) : Tree → Nat × Entry → Prop
  | .leaf v, ie => ie.2.kind ≠ tNode ∧ valueOf f fos ie.2 = .ok v
  | .node cs, ie => ie.2.kind = tNode ∧ (cs.map Prod.fst).Nodup ∧
      EncL cs (all.filter (fun x => pref x.2 = some (ie.1, ie.2.offset)))
where EncL : List (Bytes × Tree) → List (Nat × Entry) → Prop
  | [], ies => ies = []
  | (k, t) :: cs, ies => ∃ ie rest, ies = ie :: rest ∧ keyOf ie.2 = .ok k ∧ EncT f fos all t ie ∧ EncL cs rest

theorem encL_keys (f : File) (fos : List (Nat × Nat)) (all : List (Nat × Entry)) : ∀ (cs : List (Bytes × Tree)) (ies : List (Nat × Entry)),
    EncT.EncL f fos all cs ies → ies.map (fun ie => keyD ie.2) = cs.map Prod.fst := by
  intro cs
  induction cs with
  | nil => intro ies h; simp only [EncT.EncL] at h; subst h; rfl
  | cons c cs ih =>
    obtain ⟨k, t⟩ := c
    intro ies h
    simp only [EncT.EncL] at h
    obtain ⟨ie, rest, rfl, hk, _, hr⟩ := h
    have e : keyD ie.2 = k := by simp [keyD, hk]
    simp only [List.map_cons, e, ih rest hr]

theorem childrenOf_links (f : File) (fos : List (Nat × Nat)) (all : List (Nat × Entry)) (cs : List (Bytes × Tree)) (p : Option Ref)
    (hnd : (cs.map Prod.fst).Nodup) (hl : EncT.EncL f fos all cs (all.filter (fun x => pref x.2 = p))) :
    childrenOf (all.map mkLink) p = (all.filter (fun x => pref x.2 = p)).map (fun x => (keyD x.2, mkLink x)) := by
  have fl : (all.map mkLink).filter (fun l => l.parent = p) = (all.filter (fun x => pref x.2 = p)).map mkLink :=
    List.filter_map
  rw [childrenOf_nodup, fl, List.map_map]
  · rfl
  · rw [fl, List.map_map, ← encL_keys f fos all cs _ hl] at *
    exact hnd

theorem Tree.induct {P : Tree → Prop} (leaf : ∀ v, P (.leaf v)) (node : ∀ cs, (∀ kt ∈ cs, P kt.2) → P (.node cs)) : ∀ t, P t :=
  Tree.rec (motive_1 := P) (motive_2 := fun cs => ∀ kt ∈ cs, P kt.2) (motive_3 := fun kt => P kt.2) node leaf nofun
    (fun _ _ h1 h2 x hx => by
      rcases List.mem_cons.1 hx with rfl | hx
      · exact h1
      · exact h2 x hx)
    (fun _ _ h => h)

theorem encL_rep (f : File) (fos : List (Nat × Nat)) (all : List (Nat × Entry)) :
    ∀ (cs : List (Bytes × Tree)), (∀ kt ∈ cs, ∀ ie, EncT f fos all kt.2 ie → RepT f fos (all.map mkLink) kt.2 (mkLink ie)) →
      ∀ (ies : List (Nat × Entry)), EncT.EncL f fos all cs ies →
        RepT.RepL f fos (all.map mkLink) cs (ies.map (fun x => (keyD x.2, mkLink x)))
  | [], _, ies, h => by
    simp only [EncT.EncL] at h; subst h
    simp [RepT.RepL]
  | (k, t) :: cs, ih, ies, h => by
    simp only [EncT.EncL] at h
    obtain ⟨ie, rest, rfl, hk, ht, hr⟩ := h
    simp only [RepT.RepL, List.map_cons]
    have e : keyD ie.2 = k := by simp [keyD, hk]
    exact ⟨mkLink ie, _, by rw [e], ih (k, t) (by simp) ie ht, encL_rep f fos all cs (fun kt hkt => ih kt (by simp [hkt])) rest hr⟩

theorem encT_rep (f : File) (fos : List (Nat × Nat)) (all : List (Nat × Entry)) :
    ∀ (t : Tree) (ie : Nat × Entry), EncT f fos all t ie → RepT f fos (all.map mkLink) t (mkLink ie) := by
  refine Tree.induct (fun v ie h => ?_) (fun cs ih ie h => ?_)
  · simp only [EncT] at h
    simp only [RepT, mkLink]
    exact h
  · simp only [EncT] at h
    obtain ⟨hk, hnd, hl⟩ := h
    simp only [RepT]
    refine ⟨hk, ?_⟩
    rw [show some ((mkLink ie).idx, (mkLink ie).entry.offset) = some (ie.1, ie.2.offset) from rfl,
      childrenOf_links f fos all cs _ hnd hl]
    exact encL_rep f fos all cs ih _ hl


theorem tree_decode_of_load (f : File) (reg : Reg) (hload : load f = .ok reg)
    (cs : List (Bytes × Tree)) (hlink : Linkable reg.keyTables (allEntries reg.keyTables)) (hnd : (cs.map Prod.fst).Nodup)
    (henc : EncT.EncL f reg.fileObjects (allEntries reg.keyTables) cs ((allEntries reg.keyTables).filter (fun x => pref x.2 = none))) :
    typedTree f = .ok (.node cs) ∧ ((∀ kt ∈ cs, ∃ cs', kt.2 = .node cs') → asDict f = .ok (.node cs)) := by
  have hne : ∀ p ∈ reg.keyTables, p.2 ≠ [] := by
    obtain ⟨ts, hts, _⟩ := load_Parsed f reg hload
    rw [hts]
    exact fun p hp => (registerAll_mem ts hp).1
  have hl := linkAll_eq reg.keyTables reg.keyTables hne hlink
  have hopen : openFile f = .ok { reg := reg, links := (allEntries reg.keyTables).map mkLink } := by
    unfold openFile; rw [hload]; simp only []; rw [hl]
  have hu := openFile_uniqueRefs f _ hopen
  have hch := childrenOf_links f reg.fileObjects _ cs none hnd henc
  have hrep := encL_rep f reg.fileObjects _ cs (fun kt _ => encT_rep f reg.fileObjects _ kt.2) _ henc
  rw [← hch] at hrep
  have := dictOf_of_rep f { reg := reg, links := (allEntries reg.keyTables).map mkLink } hu cs hrep
  rw [asDict_eq, typedTree_eq, hopen]
  exact this

theorem tree_decode_loaded (f : File) (reg : Reg) (hload : load f = .ok reg) (hne : ∀ p ∈ reg.keyTables, p.2 ≠ [])
    (cs : List (Bytes × Tree)) (hlink : Linkable reg.keyTables (allEntries reg.keyTables)) (hnd : (cs.map Prod.fst).Nodup)
    (henc : EncT.EncL f reg.fileObjects (allEntries reg.keyTables) cs ((allEntries reg.keyTables).filter (fun x => pref x.2 = none))) :
    typedTree f = .ok (.node cs) ∧ ((∀ kt ∈ cs, ∃ cs', kt.2 = .node cs') → asDict f = .ok (.node cs)) :=
  tree_decode_of_load f reg hload cs hlink hnd henc


/-! ### the registry against `ActiveOf`: tables in use head their index; `allEntries` = `actEntries` -/

/-- under the index of a table in use the registry lists that table first: the first table dominates it (sorted), it
    strictly dominates every other table of its index -/
theorem tablesOf_head (ts act : List KeyTable) (h : ActiveOf ts act) (t : KeyTable) (ht : t ∈ act) :
    ∃ rest, tablesOf (registerAll ts) t.index = t :: rest := by
  obtain ⟨hsorted, hmem, _⟩ := RegInv_registerAll ts t.index
  obtain ⟨htts, hdom⟩ := h.2 t ht
  have htl := (hmem t).2 ⟨htts, rfl⟩
  cases hl : tablesOf (registerAll ts) t.index with
  | nil => rw [hl] at htl; cases htl
  | cons hd rest =>
    rw [hl] at hsorted hmem htl
    have hhd := (hmem hd).1 (by simp)
    have hle : t.seq ≤ hd.seq := by
      rcases List.mem_cons.1 htl with rfl | htl
      · exact Nat.le_refl _
      · exact (List.pairwise_cons.1 hsorted).1 t htl
    rcases hdom hd hhd.1 hhd.2 with e | e
    · exact ⟨rest, by rw [e]⟩
    · omega

theorem activeTable_of_act (ts act : List KeyTable) (h : ActiveOf ts act) (t : KeyTable) (ht : t ∈ act) :
    activeTable (registerAll ts) t.index = some t := by
  obtain ⟨rest, e⟩ := tablesOf_head ts act h t ht
  rw [activeTable_eq_head?, e]; rfl

theorem allEntries_eq : ∀ (kts : List (Nat × List KeyTable)), (kts.map Prod.fst).Nodup →
    allEntries kts = (kts.map Prod.fst).flatMap fun i => match tablesOf kts i with
      | [] => []
      | t :: _ => (nonFree t.entries).map (fun e => (i, e))
  | [], _ => rfl
  | (i, l) :: r, hn => by
    simp only [List.map_cons, List.nodup_cons] at hn
    have hhead : allEntries ((i, l) :: r) = (match l with | [] => [] | t :: _ => (nonFree t.entries).map (fun e => (i, e))) ++ allEntries r := by
      cases l <;> simp [allEntries]
    rw [hhead, allEntries_eq r hn.2, List.map_cons, List.flatMap_cons]
    congr 1
    · simp [tablesOf, List.lookup]
    · refine flatMap_congr fun j hj => ?_
      have : (j == i) = false := by simp; rintro rfl; exact hn.1 hj
      simp [tablesOf, List.lookup, this]

theorem allEntries_registerAll (ts act : List KeyTable) (h : ActiveOf ts act) : allEntries (registerAll ts) = actEntries act := by
  rw [allEntries_eq _ (registerAll_nodup ts), registerAll_keys, ← h.1, List.flatMap_map]
  refine flatMap_congr fun t ht => ?_
  obtain ⟨rest, e⟩ := tablesOf_head ts act h t ht
  simp only [e]


/-- what a file stores, above the object-table walk: `tables` = every key table the walk registers, in that order
    (stale copies included); `act` = the tables in use; `fos` = the File objects (offset, size), newest first -/
structure Layout where
  tables : List KeyTable
  act : List KeyTable
  fos : List (Nat × Nat)

/-- `Encodes lay cs f`: file `f` stores the root children `cs` under layout `lay`.  The first clause is about what the
    reader's `load` returns on `f`, not about bytes: `load_encode` supplies it for written files (`desc_encodes`) -/
def Encodes (lay : Layout) (cs : List (Bytes × Tree)) (f : File) : Prop :=
  (∃ reg, load f = .ok reg ∧ reg.keyTables = registerAll lay.tables ∧ reg.fileObjects = lay.fos) ∧
  ActiveOf lay.tables lay.act ∧
  (∀ ie ∈ actEntries lay.act, ParentOK lay.act ie.2 ∧ ∃ k, keyOf ie.2 = .ok k) ∧
  (cs.map Prod.fst).Nodup ∧
  EncT.EncL f lay.fos (actEntries lay.act) cs ((actEntries lay.act).filter (fun x => pref x.2 = none))

theorem parentOf_of_ok (ts act : List KeyTable) (h : ActiveOf ts act) (e : Entry) (hp : ParentOK act e) :
    parentOf (registerAll ts) e = .ok (pref e) := by
  unfold parentOf pref
  by_cases h0 : e.parentIdx = 0
  · simp [h0]
  · rcases hp with hp | ⟨t, ht, hti, p, hp, hpo⟩
    · exact absurd hp h0
    · rw [if_neg h0, if_neg h0, ← hti, activeTable_of_act ts act h t ht]
      simp only []
      rw [if_pos (List.any_eq_true.2 ⟨p, hp, by simp [hpo]⟩), hti]

def exTab1 : KeyTable := ⟨1, 5, parsedFrom exT1 KTH⟩
def exTab1old : KeyTable := ⟨1, 1, parsedFrom exT1old KTH⟩
def exTab2 : KeyTable := ⟨2, 9, parsedFrom exT2 KTH⟩
/-- registration order of `exFile`'s object table: active table of index 1, table of index 2, then the stale copy -/
def exTs : List KeyTable := [exTab1, exTab2, exTab1old]
def exAct : List KeyTable := [exTab1, exTab2]

end Hv.HyperV
