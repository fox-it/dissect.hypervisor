/- Lemmas about the encrypted-VMX model (Hv/Vmx.lean): what a success of `_decrypt_hmac` / `unseal_with_phrase` implies, a
   rendered key safe reads back, sealed blobs unlock, the key-safe parser terminates. -/
import Hv.Vmx
import HvProofs.Outcome
namespace Hv.Vmx
open Hv

/-- matches `asc "literal"`: a literal is `String.ofList` of its characters.  Rewriting with this keeps `toList` of the literal,
    which decodes it from its UTF-8 bytes, out of the evaluation -/
theorem asc_ofList (l : List Char) : asc (String.ofList l) = l.map fun ch => UInt8.ofNat ch.toNat := by
  rw [asc, String.toList_ofList]

/-! ## PKCS#7, `_decrypt_hmac` and `unseal_with_phrase`: what a success implies -/

theorem padMax_eq : padMax = 16 := rfl
theorem padMin_eq : padMin = 1 := rfl
theorem ivLen_eq : ivLen = 16 := rfl
theorem ctStart_eq : ctStart = 16 := rfl

theorem padLen_append_replicate (p : Bytes) (k : Nat) (hk : 0 < k) (hk' : k < 256) :
    padLen (p ++ List.replicate k (UInt8.ofNat k)) = k := by
  obtain ⟨k', rfl⟩ : ∃ k', k = k' + 1 := ⟨k - 1, by omega⟩
  unfold padLen
  rw [List.replicate_succ', ← List.append_assoc, List.getLast?_append]
  simp [UInt8.toNat_ofNat]; omega

theorem strip_append_replicate (p : Bytes) (k : Nat) (h1 : 1 ≤ k) (h2 : k ≤ 16) :
    strip (p ++ List.replicate k (UInt8.ofNat k)) = .ok p := by
  unfold strip
  rw [padLen_append_replicate p k (by omega) (by omega), padMin_eq, padMax_eq, List.length_append, List.length_replicate,
    Nat.add_sub_cancel, List.drop_left, List.take_left, if_pos ⟨h1, h2, rfl⟩]

theorem strip_pad (p : Bytes) : strip (p ++ pad p) = .ok p :=
  strip_append_replicate p _ (by omega) (by omega)

theorem pad_aligned (p : Bytes) : (p ++ pad p).length % 16 = 0 := by
  simp [pad, List.length_append, List.length_replicate]; omega

theorem hmacInfo_pos {m alg : Bytes} {n : Nat} (h : hmacInfo m = some (alg, n)) : 0 < n := by
  unfold hmacInfo at h
  cases hf : Extracted.vmx.HMAC_MAP.find? (·.1 = m) with
  | none => rw [hf] at h; cases h
  | some row =>
    have hpos := (by decide : ∀ r ∈ Extracted.vmx.HMAC_MAP, 0 < r.2.2) row (List.mem_of_find?_eq_some hf)
    rw [hf] at h
    rwa [show row.2 = (alg, n) from Option.some.inj h] at hpos

theorem negSplit_append (a b : Bytes) (h : 0 < b.length) : negSplit (a ++ b) b.length = (a, b) := by
  unfold negSplit
  rw [if_neg (by omega), List.length_append, Nat.add_sub_cancel, List.take_left, List.drop_left]

theorem decryptHmac_ok {c : Crypto} {key data macName pt : Bytes} (h : decryptHmac c key data macName = .ok pt) :
    ∃ alg n dec tag, hmacInfo macName = some (alg, n) ∧
      c.cbcDecrypt key (data.take 16) ((negSplit data n).1.drop 16) = .ok dec ∧ strip dec = .ok pt ∧
      c.hmac alg key pt = .ok tag ∧ tag.take n = (negSplit data n).2 := by
  unfold decryptHmac at h
  cases hm : hmacInfo macName with
  | none => rw [hm] at h; cases h
  | some an =>
    obtain ⟨alg, n⟩ := an
    rw [hm, ivLen_eq, ctStart_eq] at h
    obtain ⟨dec, hd, h⟩ := bind_ok h
    obtain ⟨pt', hs, h⟩ := bind_ok h
    obtain ⟨tag, ht, h⟩ := bind_ok h
    obtain ⟨hne, h⟩ := ok_of_gate h
    cases h
    exact ⟨alg, n, dec, tag, rfl, hd, hs, ht, Decidable.not_not.mp hne⟩

theorem unseal_ok {c : Crypto} {pw : Bytes} {locs : List Loc} {k mac : Bytes}
    (h : unsealWithPhrase c pw locs = .ok (k, mac)) :
    ∃ p data, Loc.pair (.phrase p) mac data ∈ locs ∧ unlockPair c p mac data pw = .ok k := by
  induction locs with
  | nil => simp [unsealWithPhrase] at h
  | cons l rest ih =>
    unfold unsealWithPhrase at h
    split at h
    · cases h
    · rename_i p mac' data rest' heq
      cases heq
      split at h
      · rename_i k' hk
        cases h
        exact ⟨p, data, by simp, hk⟩
      · obtain ⟨p', d', hm, hu⟩ := ih h
        exact ⟨p', d', by simp [hm], hu⟩
      · cases h
    · rename_i heq
      cases heq
      obtain ⟨p', d', hm, hu⟩ := ih h
      exact ⟨p', d', by simp [hm], hu⟩
    · cases h

/-! ## the key-safe grammar: `_split_list`, percent-encoding, and reading back what the writer renders -/

-- by `decide`, not `rfl`: `simp` would use a `rfl` lemma to rewrite the condition of an `if` and leave its `Decidable` instance behind
theorem chOpen_eq : chOpen = 40 := by decide
theorem chClose_eq : chClose = 41 := by decide
theorem chComma_eq : chComma = 44 := by decide

/-- nesting level after scanning `s` from level `l` -/
def levelAfter : Bytes → Int → Int
  | [], l => l
  | c :: cs, l => levelAfter cs (if c = 40 then l + 1 else if c = 41 then l - 1 else l)

/-- no comma at nesting level 0 while scanning `s` from level `l` -/
def noTopComma : Bytes → Int → Bool
  | [], _ => true
  | c :: cs, l => !(c = 44 ∧ l = 0) && noTopComma cs (if c = 40 then l + 1 else if c = 41 then l - 1 else l)

theorem splitLoop_item (it rest buf : Bytes) (l : Int) (h : noTopComma it l = true) :
    splitLoop (it ++ rest) buf l = splitLoop rest (it.reverse ++ buf) (levelAfter it l) := by
  induction it generalizing buf l with
  | nil => simp [levelAfter]
  | cons c cs ih =>
    simp only [noTopComma, Bool.and_eq_true, Bool.not_eq_true', decide_eq_false_iff_not] at h
    obtain ⟨h1, h2⟩ := h
    simp only [List.cons_append, splitLoop, chOpen_eq, chClose_eq, chComma_eq, levelAfter]
    by_cases h40 : c = 40
    · simp only [h40, if_true] at h2 ⊢
      rw [ih _ _ h2]; simp
    · by_cases h41 : c = 41
      · subst h41
        simp only [if_neg h40, if_true] at h2 ⊢
        rw [ih _ _ h2]; simp
      · simp only [if_neg h40, if_neg h41] at h2 ⊢
        rw [if_neg h1, ih _ _ h2]; simp

/-- a list member as the key-safe writer produces it: non-empty, balanced, no comma outside parentheses -/
def Item (it : Bytes) : Prop := it ≠ [] ∧ noTopComma it 0 = true ∧ levelAfter it 0 = 0

def joinComma : List Bytes → Bytes
  | [] => []
  | [a] => a
  | a :: b :: rest => a ++ 44 :: joinComma (b :: rest)

theorem splitLoop_join (items : List Bytes) (h : ∀ it ∈ items, Item it) :
    splitLoop (joinComma items) [] 0 = items := by
  induction items with
  | nil => simp [joinComma, splitLoop]
  | cons a rest ih =>
    have ha := h a (by simp)
    cases rest with
    | nil =>
      simp only [joinComma]
      have := splitLoop_item a [] [] 0 ha.2.1
      simp only [List.append_nil] at this
      rw [this]
      simp [splitLoop, ha.1]
    | cons b rest' =>
      simp only [joinComma]
      rw [splitLoop_item a _ [] 0 ha.2.1, ha.2.2]
      simp only [List.append_nil, splitLoop, chOpen_eq, chClose_eq, chComma_eq]
      rw [if_neg (by decide), if_neg (by decide), if_pos (by simp)]
      rw [ih (fun it hit => h it (by simp [hit]))]
      simp

def avoids (bad : List UInt8) (s : Bytes) : Bool := s.all fun x => !bad.contains x

theorem avoids_append (bad : List UInt8) (a b : Bytes) : avoids bad (a ++ b) = (avoids bad a && avoids bad b) := by
  simp [avoids, List.all_append]

theorem avoids_cons (bad : List UInt8) (x : UInt8) (b : Bytes) : avoids bad (x :: b) = (!bad.contains x && avoids bad b) := by
  simp [avoids]

theorem avoids_mem {bad : List UInt8} {s : Bytes} (h : avoids bad s = true) {sep : UInt8} (hs : sep ∈ bad) :
    ∀ x ∈ s, x ≠ sep := by
  intro x hx heq
  subst heq
  simp only [avoids, List.all_eq_true] at h
  have := h x hx
  simp [hs] at this

theorem avoids_sub {bad bad' : List UInt8} {s : Bytes} (h : avoids bad s = true) (hs : ∀ b ∈ bad', b ∈ bad) :
    avoids bad' s = true := by
  simp only [avoids, List.all_eq_true, Bool.not_eq_true'] at h ⊢
  intro x hx
  have := h x hx
  cases hc : bad'.contains x with
  | false => rfl
  | true =>
    rw [List.contains_iff_mem] at hc
    have hm := hs x hc
    rw [← List.contains_iff_mem] at hm
    rw [hm] at this; cases this

theorem level_const (s : Bytes) (l : Int) (h : ∀ c ∈ s, c ≠ 40 ∧ c ≠ 41 ∧ (c = 44 → l ≠ 0)) :
    noTopComma s l = true ∧ levelAfter s l = l := by
  induction s with
  | nil => simp [noTopComma, levelAfter]
  | cons c cs ih =>
    obtain ⟨h40, h41, h44⟩ := h c (by simp)
    have := ih fun x hx => h x (by simp [hx])
    simp only [noTopComma, levelAfter, if_neg h40, if_neg h41]
    simpa [this] using Decidable.not_or_of_imp h44

theorem level_flat (s : Bytes) (l : Int) (h : avoids [40, 41, 44] s = true) :
    noTopComma s l = true ∧ levelAfter s l = l :=
  level_const s l fun c hc => ⟨avoids_mem h (by simp) c hc, avoids_mem h (by simp) c hc,
    fun e => absurd e (avoids_mem h (by simp) c hc)⟩

theorem level_inner (s : Bytes) (l : Int) (hl : l ≠ 0) (h : avoids [40, 41] s = true) :
    noTopComma s l = true ∧ levelAfter s l = l :=
  level_const s l fun c hc => ⟨avoids_mem h (by simp) c hc, avoids_mem h (by simp) c hc, fun _ => hl⟩

theorem noTopComma_append (a b : Bytes) (l : Int) :
    noTopComma (a ++ b) l = (noTopComma a l && noTopComma b (levelAfter a l)) := by
  induction a generalizing l with
  | nil => simp [noTopComma, levelAfter]
  | cons c cs ih => simp [noTopComma, levelAfter, ih, Bool.and_assoc]

theorem levelAfter_append (a b : Bytes) (l : Int) : levelAfter (a ++ b) l = levelAfter b (levelAfter a l) := by
  induction a generalizing l with
  | nil => simp [levelAfter]
  | cons c cs ih => simp [levelAfter, ih]

theorem item_wrapped (pre inner : Bytes) (hp : avoids [40, 41, 44] pre = true) (hi : avoids [40, 41] inner = true) :
    Item (pre ++ 40 :: (inner ++ [41])) := by
  refine ⟨by simp, ?_, ?_⟩
  · rw [noTopComma_append, (level_flat pre 0 hp).1, (level_flat pre 0 hp).2]
    simp only [noTopComma, Bool.true_and, if_true]
    rw [noTopComma_append, (level_inner inner (0 + 1) (by decide) hi).1, (level_inner inner (0 + 1) (by decide) hi).2]
    simp [noTopComma]
  · rw [levelAfter_append, (level_flat pre 0 hp).2]
    simp only [levelAfter, if_true]
    rw [levelAfter_append, (level_inner inner (0 + 1) (by decide) hi).2]
    simp [levelAfter]

theorem item_flat (s : Bytes) (hne : s ≠ []) (h : avoids [40, 41, 44] s = true) : Item s :=
  ⟨hne, (level_flat s 0 h).1, (level_flat s 0 h).2⟩

theorem lastIdx_snoc (c : UInt8) (l : Bytes) : lastIdx c (l ++ [c]) = some l.length := by
  induction l with
  | nil => simp [lastIdx]
  | cons x xs ih => simp [lastIdx, ih]

theorem takeWhile_all (l : Bytes) (p : UInt8 → Bool) (h : ∀ x ∈ l, p x = true) : l.takeWhile p = l := by
  induction l with
  | nil => rfl
  | cons x xs ih =>
    rw [List.takeWhile_cons, h x (by simp), if_pos rfl, ih (fun y hy => h y (by simp [hy]))]

theorem listContents_render (s : Bytes) (hne : s ≠ []) (hnl : ∀ x ∈ s, x ≠ 10) :
    listContents (40 :: (s ++ [41])) = some s := by
  unfold listContents
  simp only [chOpen_eq, chClose_eq, ne_eq, not_true_eq_false, if_false]
  have htw : (s ++ [41]).takeWhile (fun x => decide (x ≠ 10)) = s ++ [41] := by
    apply takeWhile_all
    intro x hx
    rcases List.mem_append.mp hx with h | h
    · simpa using hnl x h
    · simp at h; subst h; decide
  simp only [ne_eq] at htw
  rw [htw, lastIdx_snoc]
  have : s.length ≠ 0 := by simpa using hne
  simp [this]

def hexChar (upper : Bool) (n : Nat) : UInt8 :=
  if n < 10 then UInt8.ofNat (48 + n) else UInt8.ofNat ((if upper then 55 else 87) + n)

theorem hexVal_hexChar : ∀ u : Bool, ∀ n, n < 16 → hexVal? (hexChar u n) = some n := by decide

/-- percent-encoding: bytes for which `keep` holds (never `%`) stay, all others become `%XY` -/
def pctEncode (keep : UInt8 → Bool) (upper : Bool) : Bytes → Bytes
  | [] => []
  | b :: rest =>
    if keep b ∧ b ≠ 37 then b :: pctEncode keep upper rest
    else 37 :: hexChar upper (b.toNat / 16) :: hexChar upper (b.toNat % 16) :: pctEncode keep upper rest

theorem pctDecode_cons_ne (b : UInt8) (r : Bytes) (h : b ≠ 37) : pctDecode (b :: r) = b :: pctDecode r := by
  match r with
  | [] => simp [pctDecode]
  | [a] => simp [pctDecode]
  | a :: b' :: r' => simp [pctDecode, h]

theorem pctDecode_escape (u : Bool) (b : UInt8) (r : Bytes) :
    pctDecode (37 :: hexChar u (b.toNat / 16) :: hexChar u (b.toNat % 16) :: r) = b :: pctDecode r := by
  have h1 := hexVal_hexChar u (b.toNat / 16) (by have := b.toNat_lt; omega)
  have h2 := hexVal_hexChar u (b.toNat % 16) (by omega)
  simp only [pctDecode, if_true, h1, h2]
  congr 1
  rw [Nat.div_add_mod]
  simp

theorem pctDecode_pctEncode (keep : UInt8 → Bool) (u : Bool) (s : Bytes) : pctDecode (pctEncode keep u s) = s := by
  induction s with
  | nil => simp [pctEncode, pctDecode]
  | cons b rest ih =>
    unfold pctEncode
    split
    · rename_i h
      rw [pctDecode_cons_ne _ _ h.2, ih]
    · rw [pctDecode_escape, ih]

def alnum (b : UInt8) : Bool := (48 ≤ b && b ≤ 57) || (65 ≤ b && b ≤ 90) || (97 ≤ b && b ≤ 122)

/-- what VMware writes: everything but `[0-9A-Za-z]` percent-encoded -/
def esc (s : Bytes) : Bytes := pctEncode alnum false s

theorem hexChar_alnum : ∀ n, n < 16 → alnum (hexChar false n) = true := by decide

theorem avoids_esc (bad : List UInt8) (hb : bad.all (fun b => !alnum b && b != 37) = true) (s : Bytes) :
    avoids bad (esc s) = true := by
  have key : ∀ x : UInt8, (alnum x = true ∨ x = 37) → bad.contains x = false := by
    intro x hx
    cases hc : bad.contains x with
    | false => rfl
    | true =>
      rw [List.contains_iff_mem] at hc
      have := List.all_eq_true.mp hb x hc
      simp only [Bool.and_eq_true, Bool.not_eq_true', bne_iff_ne, ne_eq] at this
      rcases hx with h | h
      · rw [h] at this; exact absurd this.1 (by simp)
      · exact absurd h this.2
  induction s with
  | nil => simp [esc, pctEncode, avoids]
  | cons b rest ih =>
    unfold esc pctEncode
    split
    · rename_i h
      rw [avoids_cons, key b (Or.inl h.1)]
      simpa [esc] using ih
    · have h1 := hexChar_alnum (b.toNat / 16) (by have := b.toNat_lt; omega)
      have h2 := hexChar_alnum (b.toNat % 16) (by omega)
      rw [avoids_cons, avoids_cons, avoids_cons, key 37 (Or.inr rfl), key _ (Or.inl h1), key _ (Or.inl h2)]
      simpa [esc] using ih

theorem esc_ne_nil {s : Bytes} (h : s ≠ []) : esc s ≠ [] := by
  cases s with
  | nil => exact absurd rfl h
  | cons b r => unfold esc pctEncode; split <;> simp

theorem pctDecode_esc (s : Bytes) : pctDecode (esc s) = s := pctDecode_pctEncode _ _ _

theorem partition_append (sep : UInt8) (a r : Bytes) (h : ∀ x ∈ a, x ≠ sep) :
    partition sep (a ++ sep :: r) = (a, r) := by
  induction a with
  | nil => simp [partition]
  | cons x xs ih =>
    have hx : x ≠ sep := h x (by simp)
    simp only [List.cons_append, partition, if_neg hx, ih (fun y hy => h y (by simp [hy]))]

theorem splitOn_none (sep : UInt8) (a : Bytes) (h : ∀ x ∈ a, x ≠ sep) : splitOn sep a = [a] := by
  induction a with
  | nil => simp [splitOn]
  | cons x xs ih =>
    have hx : x ≠ sep := h x (by simp)
    simp only [splitOn, if_neg hx, ih (fun y hy => h y (by simp [hy]))]

theorem splitOn_append (sep : UInt8) (a r : Bytes) (h : ∀ x ∈ a, x ≠ sep) :
    splitOn sep (a ++ sep :: r) = a :: splitOn sep r := by
  induction a with
  | nil => simp [splitOn]
  | cons x xs ih =>
    have hx : x ≠ sep := h x (by simp)
    simp only [List.cons_append, splitOn, if_neg hx, ih (fun y hy => h y (by simp [hy]))]

/-- one `key=escaped value` member of a crypto dict -/
def renderMember (k v : Bytes) : Bytes := k ++ 61 :: esc v

/-- `pass2key=…:cipher=…:rounds=…:salt=…` (values escaped; `dec` prints the integer, `b64` encodes bytes) -/
def renderDict (b64 : Bytes → Bytes) (dec : Int → Bytes) (p : Phrase) : Bytes :=
  renderMember kPass2key p.pass2key ++ 58 :: (renderMember kCipher p.cipher ++ 58 ::
    (renderMember kRounds (dec p.rounds) ++ 58 :: renderMember kSalt (b64 p.salt)))

/-- `phrase/esc(id)/esc(dict)` -/
def renderPhrase (b64 : Bytes → Bytes) (dec : Int → Bytes) (p : Phrase) : Bytes :=
  identPhrase ++ 47 :: (esc p.id ++ 47 :: esc (renderDict b64 dec p))

structure PairSpec where
  phrase : Phrase
  mac : Bytes
  data : Bytes

def PairSpec.toLoc (ps : PairSpec) : Loc := .pair (.phrase ps.phrase) ps.mac ps.data

def pairInner (b64 : Bytes → Bytes) (dec : Int → Bytes) (ps : PairSpec) : Bytes :=
  joinComma [renderPhrase b64 dec ps.phrase, esc ps.mac, esc (b64 ps.data)]

/-- `pair/(phrase…,esc(mac),esc(base64 data))` -/
def renderPair (b64 : Bytes → Bytes) (dec : Int → Bytes) (ps : PairSpec) : Bytes :=
  (identPair ++ [47]) ++ 40 :: (pairInner b64 dec ps ++ [41])

/-- `vmware:key/list/(pair…,pair…)` -/
def renderKeySafe (b64 : Bytes → Bytes) (dec : Int → Bytes) (ks : List PairSpec) : Bytes :=
  identKeySafe ++ 47 :: ((identList ++ [47]) ++ 40 :: (joinComma (ks.map (renderPair b64 dec)) ++ [41]))

theorem sepSafe_eq : sepSafe = 47 := by decide
theorem sepLoc_eq : sepLoc = 47 := by decide
theorem sepPhrase_eq : sepPhrase = 47 := by decide
theorem sepDict_eq : sepDict = 58 := by decide
theorem sepKV_eq : sepKV = 61 := by decide

theorem esc_avoids_struct (s : Bytes) : avoids [47, 40, 41, 44, 58, 61, 10] (esc s) = true :=
  avoids_esc _ (by decide) s

theorem esc_no (s : Bytes) {sep : UInt8} (hs : sep ∈ [47, 40, 41, 44, 58, 61, 10]) : ∀ x ∈ esc s, x ≠ sep :=
  avoids_mem (esc_avoids_struct s) hs

theorem renderMember_no58 (k v : Bytes) (hk : avoids [58] k = true) : ∀ x ∈ renderMember k v, x ≠ 58 := by
  intro x hx
  simp only [renderMember, List.mem_append, List.mem_cons] at hx
  rcases hx with h | h | h
  · exact avoids_mem hk (by simp) x h
  · subst h; decide
  · exact esc_no v (by simp) x h

theorem parseCryptoDict_cons (k v rest : Bytes) (hk : avoids [58, 61] k = true) :
    parseCryptoDict (renderMember k v ++ 58 :: rest) = (k, v) :: parseCryptoDict rest := by
  unfold parseCryptoDict
  rw [sepDict_eq, sepKV_eq, splitOn_append 58 _ _ (renderMember_no58 k v (avoids_sub hk (by simp))), List.map_cons,
    renderMember, partition_append 61 k (esc v) (avoids_mem hk (by simp)), pctDecode_esc]

theorem parseCryptoDict_single (k v : Bytes) (hk : avoids [58, 61] k = true) : parseCryptoDict (renderMember k v) = [(k, v)] := by
  unfold parseCryptoDict
  rw [sepDict_eq, sepKV_eq, splitOn_none 58 _ (renderMember_no58 k v (avoids_sub hk (by simp))), List.map_cons,
    renderMember, partition_append 61 k (esc v) (avoids_mem hk (by simp)), pctDecode_esc, List.map_nil]

theorem joinComma_noNL (items : List Bytes) (h : ∀ it ∈ items, avoids [10] it = true) : avoids [10] (joinComma items) = true := by
  induction items with
  | nil => rfl
  | cons a rest ih =>
    cases rest with
    | nil => simpa [joinComma] using h a (by simp)
    | cons b r =>
      simp only [joinComma]
      rw [avoids_append, avoids_cons, h a (by simp), ih (fun it hit => h it (by simp [hit]))]
      decide

theorem joinComma_ne_nil (items : List Bytes) (hne : items ≠ []) (h : ∀ it ∈ items, it ≠ []) : joinComma items ≠ [] := by
  match items, hne with
  | [a], _ => simpa [joinComma] using h a (by simp)
  | a :: b :: r, _ => simp [joinComma]

theorem splitList_join (items : List Bytes) (hne : items ≠ []) (h : ∀ it ∈ items, Item it)
    (hnl : ∀ it ∈ items, avoids [10] it = true) :
    splitList (40 :: (joinComma items ++ [41])) = .ok items := by
  unfold splitList
  rw [listContents_render _ (joinComma_ne_nil _ hne (fun it hit => (h it hit).1))
    (avoids_mem (joinComma_noNL _ hnl) (by simp))]
  simp only
  rw [splitLoop_join _ h]

section
variable (b64 : Bytes → Bytes) (dec : Int → Bytes)

theorem parseCryptoDict_render (p : Phrase) :
    parseCryptoDict (renderDict b64 dec p) =
      [(kPass2key, p.pass2key), (kCipher, p.cipher), (kRounds, dec p.rounds), (kSalt, b64 p.salt)] := by
  rw [renderDict, parseCryptoDict_cons _ _ _ (by decide), parseCryptoDict_cons _ _ _ (by decide),
    parseCryptoDict_cons _ _ _ (by decide), parseCryptoDict_single _ _ (by decide)]

theorem renderPhrase_flat (p : Phrase) :
    avoids [40, 41, 44, 10] (renderPhrase b64 dec p) = true := by
  have h1 := avoids_esc [40, 41, 44, 10] (by decide) p.id
  have h2 := avoids_esc [40, 41, 44, 10] (by decide) (renderDict b64 dec p)
  unfold renderPhrase
  rw [avoids_append, avoids_cons, avoids_append, avoids_cons, h1, h2]
  decide

theorem pairInner_members (ps : PairSpec)
    (hmac : ps.mac ≠ []) (hdata : b64 ps.data ≠ []) :
    splitList (40 :: (pairInner b64 dec ps ++ [41])) =
      .ok [renderPhrase b64 dec ps.phrase, esc ps.mac, esc (b64 ps.data)] := by
  have hf := renderPhrase_flat b64 dec ps.phrase
  have e1 := avoids_esc [40, 41, 44, 10] (by decide) ps.mac
  have e2 := avoids_esc [40, 41, 44, 10] (by decide) (b64 ps.data)
  have hne : renderPhrase b64 dec ps.phrase ≠ [] := by
    unfold renderPhrase; intro h
    have := congrArg List.length h
    simp [List.length_append] at this
  refine splitList_join _ (by simp) ?_ ?_ <;> intro it hit <;>
    simp only [List.mem_cons, List.not_mem_nil, or_false] at hit <;> rcases hit with rfl | rfl | rfl
  · exact item_flat _ hne (avoids_sub hf (by simp))
  · exact item_flat _ (esc_ne_nil hmac) (avoids_sub e1 (by simp))
  · exact item_flat _ (esc_ne_nil hdata) (avoids_sub e2 (by simp))
  · exact avoids_sub hf (by simp)
  · exact avoids_sub e1 (by simp)
  · exact avoids_sub e2 (by simp)

theorem pairInner_avoids (ps : PairSpec) : avoids [40, 41, 10] (pairInner b64 dec ps) = true := by
  have hf := avoids_sub (bad' := [40, 41, 10]) (renderPhrase_flat b64 dec ps.phrase) (by simp)
  have e1 := avoids_esc [40, 41, 10] (by decide) ps.mac
  have e2 := avoids_esc [40, 41, 10] (by decide) (b64 ps.data)
  simp only [pairInner, joinComma, avoids_append, avoids_cons, hf, e1, e2]
  decide

theorem renderPair_item (ps : PairSpec) : Item (renderPair b64 dec ps) :=
  item_wrapped _ _ (by decide) (avoids_sub (pairInner_avoids b64 dec ps) (by simp))

theorem renderPair_noNL (ps : PairSpec) : avoids [10] (renderPair b64 dec ps) = true := by
  simp only [renderPair, avoids_append, avoids_cons,
    avoids_sub (pairInner_avoids b64 dec ps) (show ∀ b ∈ [10], b ∈ [40, 41, 10] by simp)]
  decide

end

section
variable (c : Crypto) (b64 : Bytes → Bytes) (dec : Int → Bytes)
  (hb : ∀ x, c.b64decode (b64 x) = .ok x) (hd : ∀ n, c.parseInt (dec n) = .ok n)
include hb hd

theorem parsePhrase_render (p : Phrase) :
    parsePhrase c (esc p.id ++ 47 :: esc (renderDict b64 dec p)) = .ok p := by
  unfold parsePhrase
  rw [sepPhrase_eq, partition_append 47 _ _ (esc_no p.id (by simp))]
  simp only [pctDecode_esc, parseCryptoDict_render]
  have hne : kSalt ≠ kPass2key ∧ kRounds ≠ kPass2key ∧ kCipher ≠ kPass2key ∧ kSalt ≠ kCipher ∧ kRounds ≠ kCipher ∧
      kSalt ≠ kRounds := by decide
  simp only [dictGet, List.reverse_cons, List.reverse_nil, List.nil_append, List.cons_append, List.find?, hne, decide_false,
    decide_true, Option.map_some, hd, hb, bind, Except.bind]

theorem parseLocator_phrase (p : Phrase) (fuel : Nat) :
    parseLocator c (fuel + 1) (renderPhrase b64 dec p) = .ok (.phrase p) := by
  unfold parseLocator renderPhrase
  rw [sepLoc_eq, partition_append 47 _ _ (avoids_mem (show avoids [47] identPhrase = true by decide) (by simp))]
  simp only
  rw [if_neg (show identPhrase ≠ identList by decide), if_neg (show identPhrase ≠ identPair by decide), if_pos trivial,
    parsePhrase_render c b64 dec hb hd]
  rfl

theorem parseLocator_pair (ps : PairSpec)
    (hmac : ps.mac ≠ []) (hdata : b64 ps.data ≠ []) (fuel : Nat) :
    parseLocator c (fuel + 2) (renderPair b64 dec ps) = .ok ps.toLoc := by
  unfold parseLocator renderPair
  rw [sepLoc_eq, List.append_assoc, List.singleton_append,
    partition_append 47 _ _ (avoids_mem (show avoids [47] identPair = true by decide) (by simp))]
  simp only
  rw [if_neg (show identPair ≠ identList by decide), if_pos trivial, pairInner_members b64 dec ps hmac hdata]
  simp only [bind, Except.bind, parseLocator_phrase c b64 dec hb hd, pctDecode_esc, hb]
  rfl

theorem fromText_render (ks : List PairSpec) (hne : ks ≠ []) (hk : ∀ ps ∈ ks, ps.mac ≠ [] ∧ b64 ps.data ≠ []) :
    fromText c (renderKeySafe b64 dec ks) = .ok (ks.map PairSpec.toLoc) := by
  unfold fromText renderKeySafe
  rw [sepSafe_eq, partition_append 47 _ _ (avoids_mem (show avoids [47] identKeySafe = true by decide) (by simp))]
  simp only [ne_eq, not_true_eq_false, if_false]
  generalize hj : joinComma (ks.map (renderPair b64 dec)) = j
  -- the fuel `fromText` passes, length + 1, written as three levels (list, pair, phrase) above `j.length + 5`;
  -- `parseLocator_pair` spends two of them (`fuel + 2`), the list level here the third
  have hlen : ((identList ++ [47]) ++ 40 :: (j ++ [41])).length + 1 = (j.length + 5) + 3 := by
    simp only [List.length_append, List.length_cons, List.length_nil, show identList.length = 4 by decide]; omega
  rw [hlen]
  unfold parseLocator
  rw [sepLoc_eq, List.append_assoc, List.singleton_append,
    partition_append 47 _ _ (avoids_mem (show avoids [47] identList = true by decide) (by simp))]
  simp only
  have hsl : splitList (40 :: (j ++ [41])) = .ok (ks.map (renderPair b64 dec)) := by
    rw [← hj]
    refine splitList_join _ (by simpa using hne) ?_ ?_ <;> intro it hit <;> obtain ⟨ps, _, rfl⟩ := List.mem_map.mp hit
    · exact renderPair_item b64 dec ps
    · exact renderPair_noNL b64 dec ps
  rw [if_pos trivial, hsl]
  simp only [bind, Except.bind]
  rw [mapM_map_ok fun ps hps => parseLocator_pair c b64 dec hb hd ps (hk ps hps).1 (hk ps hps).2 (j.length + 5)]

end

/-- the text sealed inside a pair: `type=key:cipher=…:key=esc(base64 key)` -/
def renderKeyDict (b64 : Bytes → Bytes) (cipherName dataKey : Bytes) : Bytes :=
  renderMember (asc "type") (asc "key") ++ 58 :: (renderMember kCipher cipherName ++ 58 :: renderMember kKey (b64 dataKey))

theorem keyDict_get (b64 : Bytes → Bytes) (cn dk : Bytes) :
    dictGet (parseCryptoDict (renderKeyDict b64 cn dk)) kKey = some (b64 dk) := by
  rw [renderKeyDict, parseCryptoDict_cons _ _ _ (by decide), parseCryptoDict_cons _ _ _ (by decide),
    parseCryptoDict_single _ _ (by decide)]
  simp [dictGet]

/-! ## sealed blobs: `_decrypt_hmac` and the unlock path on what the writer sealed -/

/-- what the reader needs of the parts a blob is sealed from: `macName` has the table entry `(alg, n)`, the IV has 16 bytes,
    `tag` is the full MAC of the plaintext `p` under `key`, and the stored length `n` lies within it -/
structure Sealed (c : Crypto) (macName alg : Bytes) (n : Nat) (key iv p tag : Bytes) : Prop where
  mac : hmacInfo macName = some (alg, n)
  ivLen : iv.length = 16
  tagOk : c.hmac alg key p = .ok tag
  len : n ≤ tag.length

section
variable (c : Crypto) (enc : Bytes → Bytes → Bytes → Bytes) (b64 : Bytes → Bytes)

theorem decryptHmac_seal (hinv : ∀ k iv pt, pt.length % 16 = 0 → c.cbcDecrypt k iv (enc k iv pt) = .ok pt)
    {macName alg key iv p tag : Bytes} {n : Nat} (h : Sealed c macName alg n key iv p tag) :
    decryptHmac c key (sealBlob enc tag n key iv p) macName = .ok p := by
  have hlen : (tag.take n).length = n := by rw [List.length_take]; have := h.len; omega
  have hsplit : negSplit (sealBlob enc tag n key iv p) n = (iv ++ enc key iv (p ++ pad p), tag.take n) := by
    have := negSplit_append (iv ++ enc key iv (p ++ pad p)) (tag.take n) (by have := hmacInfo_pos h.mac; omega)
    rwa [hlen] at this
  have h1 : (sealBlob enc tag n key iv p).take 16 = iv := by
    rw [sealBlob, List.append_assoc, List.take_left' h.ivLen]
  unfold decryptHmac
  simp only [h.mac, hsplit, ivLen_eq, ctStart_eq, h1, List.drop_left' h.ivLen, hinv _ _ _ (pad_aligned p), bind, Except.bind, strip_pad,
    h.tagOk, ne_eq, not_true_eq_false, if_false]

theorem unlockPair_sealed (hinv : ∀ k iv pt, pt.length % 16 = 0 → c.cbcDecrypt k iv (enc k iv pt) = .ok pt)
    (hb : ∀ x, c.b64decode (b64 x) = .ok x) (p : Phrase) (pw : Bytes) {kek iv tag cn dk macName alg : Bytes}
    {n : Nat} (hk : unwrap c p pw = .ok kek) (h : Sealed c macName alg n kek iv (renderKeyDict b64 cn dk) tag)
    (hu : c.utf8ok (renderKeyDict b64 cn dk) = .ok true) :
    unlockPair c p macName (sealBlob enc tag n kek iv (renderKeyDict b64 cn dk)) pw = .ok dk := by
  unfold unlockPair
  rw [hk]
  simp only [bind, Except.bind, decryptHmac_seal c enc hinv h, hu, keyDict_get, hb]
  simp only [Bool.true_eq_false, ↓reduceIte]

end

theorem kEncrypted_eq : kEncrypted = kKeySafe := by decide

theorem unlockCore_of_locs {c : Crypto} {attr : Attr} {pw ks ed : Bytes} {locs : List Loc}
    (hks : attrGet attr kKeySafe = some ks) (hd : attrGet attr kData = some ed) (hl : fromText c ks = .ok locs) :
    unlockCore c attr pw = unsealWithPhrase c pw locs >>= fun km => c.b64decode ed >>= fun enc =>
      decryptHmac c km.1 enc km.2 >>= fun dec => c.utf8ok dec >>= fun good =>
        if good = false then .error .value else c.parseDict dec := by
  simp only [unlockCore, kEncrypted_eq, hks, hd, hl]
  rfl

/-- the two external functions the parser calls (`b64decode`, `parseInt`) never report the model's own out-of-fuel outcome -/
def Crypto.NoNT (c : Crypto) : Prop :=
  (∀ x, c.b64decode x ≠ .error .nonTermination) ∧ (∀ x, c.parseInt x ≠ .error .nonTermination)

theorem partition_snd_length (sep : UInt8) (s : Bytes) : (partition sep s).2.length ≤ s.length := by
  induction s with
  | nil => simp [partition]
  | cons c cs ih =>
    simp only [partition]
    split
    · simp
    · simp only [List.length_cons]; omega

theorem splitLoop_member_length : ∀ (cs buf : Bytes) (level : Int), ∀ m ∈ splitLoop cs buf level, m.length ≤ cs.length + buf.length := by
  intro cs
  induction cs with
  | nil =>
    intro buf level m hm
    simp only [splitLoop] at hm
    split at hm
    · cases hm
    · simp only [List.mem_singleton] at hm; subst hm; simp
  | cons c cs ih =>
    intro buf level m hm
    simp only [splitLoop] at hm
    split at hm
    · have := ih _ _ m hm; simp only [List.length_cons] at this ⊢; omega
    split at hm
    · have := ih _ _ m hm; simp only [List.length_cons] at this ⊢; omega
    split at hm
    · simp only [List.mem_cons] at hm
      rcases hm with rfl | hm
      · simp
      · have := ih _ _ m hm; simp only [List.length_cons, List.length_nil] at this ⊢; omega
    · have := ih _ _ m hm; simp only [List.length_cons] at this ⊢; omega

theorem listContents_length {v contents : Bytes} (h : listContents v = some contents) : contents.length < v.length := by
  unfold listContents at h
  split at h
  · cases h
  · rename_i c rest
    split at h
    · cases h
    · simp only at h
      split at h
      · split at h
        · cases h
        · simp only [Option.some.injEq] at h
          subst h
          have : (rest.takeWhile (· ≠ 10)).length ≤ rest.length := (List.takeWhile_sublist _).length_le
          simp only [List.length_take, List.length_cons]
          omega
      · cases h

theorem splitList_member_length {v : Bytes} {ms : List Bytes} (h : splitList v = .ok ms) : ∀ m ∈ ms, m.length < v.length := by
  unfold splitList at h
  split at h
  · cases h
  · rename_i contents hc
    simp only [Except.ok.injEq] at h
    subst h
    intro m hm
    have h1 := splitLoop_member_length contents [] 0 m hm
    have h2 := listContents_length hc
    simp only [List.length_nil] at h1
    omega

theorem splitList_noNT (v : Bytes) : splitList v ≠ .error .nonTermination := by
  unfold splitList; split <;> (intro h; cases h)

theorem parsePhrase_noNT (c : Crypto) (hc : c.NoNT) (r : Bytes) : parsePhrase c r ≠ .error .nonTermination := by
  unfold parsePhrase
  dsimp only
  split; · nofun
  split; · nofun
  split; · nofun
  refine bind_ne_error (hc.2 _) fun rounds _ => ?_
  split; · nofun
  exact bind_ne_error (hc.1 _) fun _ _ => nofun

/-- every nesting level consumes at least its identifier and the opening parenthesis, so `length + 1` units of fuel cover
    any nesting the text can encode -/
theorem parseLocator_terminates (c : Crypto) (hc : c.NoNT) : ∀ (fuel : Nat) (s : Bytes), s.length < fuel →
    parseLocator c fuel s ≠ .error .nonTermination := by
  intro fuel
  induction fuel with
  | zero => intro s h; omega
  | succ fuel ih =>
    intro s hs
    have hrem := partition_snd_length sepLoc s
    -- a member of the split list is shorter than the remainder, hence than `s`
    have hmem : ∀ {ms : List Bytes}, splitList (partition sepLoc s).2 = .ok ms → ∀ m ∈ ms, parseLocator c fuel m ≠ .error .nonTermination :=
      fun hms m hm => ih m (by have := splitList_member_length hms m hm; omega)
    rw [parseLocator]
    refine ite_ne_error ?_ (ite_ne_error ?_ (ite_ne_error ?_ nofun))
    · exact bind_ne_error (splitList_noNT _) fun ms hms => bind_ne_error (mapM_ne_error (hmem hms)) fun _ _ => nofun
    · refine bind_ne_error (splitList_noNT _) fun ms hms => ?_
      match ms, hmem hms with
      | [], _ => nofun
      | m0 :: rest, hm =>
        refine bind_ne_error (hm m0 (by simp)) fun k _ => ?_
        match rest with
        | m1 :: m2 :: _ => exact bind_ne_error (hc.1 _) fun _ _ => nofun
        | [] | [_] => nofun
    · exact bind_ne_error (parsePhrase_noNT c hc _) fun _ _ => nofun

/-- `KeySafe.from_text` passes `length + 1`: enough for every text -/
theorem fromText_terminates (c : Crypto) (hc : c.NoNT) (text : Bytes) : fromText c text ≠ .error .nonTermination := by
  unfold fromText
  refine ite_ne_error nofun <|
    bind_ne_error (parseLocator_terminates c hc _ _ (Nat.lt_succ_self _)) fun l _ => ?_
  cases l <;> nofun

/-! ## a toy instance of the primitives (non-vacuity of the hypotheses; evaluated by the kernel) -/

def toyEnc (_k _iv pt : Bytes) : Bytes := pt.reverse

def toySum (b : Bytes) : UInt8 := b.foldl (fun a x => a * 31 + x + 1) 7

def toyDec (n : Int) : Bytes := if n < 0 then 45 :: List.replicate (-n).toNat 49 else List.replicate n.toNat 49

def toy : Crypto where
  pbkdf2 := fun alg pw salt rounds n =>
    .ok ((toySum (alg ++ pw) :: toySum (salt ++ toyDec rounds) :: List.replicate n (toySum (pw ++ salt))).take n)
  hmac := fun alg key msg => .ok (List.replicate 32 (toySum (alg ++ key ++ 0 :: msg)))
  cbcDecrypt := fun _ _ ct => if ct.length % 16 = 0 then .ok ct.reverse else .error .value
  b64decode := fun s => .ok s
  parseInt := fun s => match s with
    | 45 :: r => .ok (-(r.length : Int))
    | _ => .ok (s.length : Int)
  utf8ok := fun _ => .ok true
  parseDict := fun s => .ok [((partition 61 s).1, (partition 61 s).2)]

theorem toy_laws :
    (∀ k iv pt, pt.length % 16 = 0 → toy.cbcDecrypt k iv (toyEnc k iv pt) = .ok pt) ∧
    (∀ x, toy.b64decode (id x) = .ok x) ∧ (∀ n, toy.parseInt (toyDec n) = .ok n) := by
  refine ⟨fun k iv pt h => by simp [toy, toyEnc, h], fun _ => rfl, fun n => ?_⟩
  unfold toyDec toy
  split
  · simp only [List.length_replicate]
    congr 1; omega
  · rcases hk : n.toNat with _ | k
    · show Except.ok ((0 : Nat) : Int) = .ok n
      congr 1; omega
    · show Except.ok (((49 :: List.replicate k 49 : Bytes).length : Nat) : Int) = .ok n
      simp only [List.length_cons, List.length_replicate]
      congr 1; omega

-- the example file of C15; its lemmas below are what the `example`s of HvProps/C15.lean evaluate against
def exPhrase : Phrase := ⟨asc "id 1", asc "PBKDF2-HMAC-SHA-256", asc "AES-128", 7, [1, 2, 3]⟩
def exPw : Bytes := asc "secret"
def exKek : Bytes := match unwrap toy exPhrase exPw with | .ok k => k | .error _ => []
def exDk : Bytes := List.replicate 16 9
def exIv : Bytes := List.replicate 16 5
def exInner : Bytes := renderKeyDict id (asc "AES-128") exDk
def exTag (key msg : Bytes) : Bytes := match toy.hmac (asc "sha1") key msg with | .ok t => t | .error _ => []
def exPair : PairSpec := ⟨exPhrase, asc "HMAC-SHA-1-128", sealBlob toyEnc (exTag exKek exInner) 16 exKek exIv exInner⟩
/-- 6 bytes ending in `\n` = 0x0a = the PKCS#7 pad length of a 6-byte text -/
def exCfg : Bytes := asc "ab=cd\n"
def exAttr : Attr := [(asc ".encoding", asc "UTF-8"), (kKeySafe, renderKeySafe id toyDec [exPair]),
  (kData, sealBlob toyEnc (exTag exDk exCfg) 16 exDk exIv exCfg)]
/-- the same file with one ciphertext byte of `encryption.data` altered -/
def exTampered : Attr := [(asc ".encoding", asc "UTF-8"), (kKeySafe, renderKeySafe id toyDec [exPair]),
  (kData, (sealBlob toyEnc (exTag exDk exCfg) 16 exDk exIv exCfg).set 31 0)]
/-- the same file with one ciphertext byte altered that decrypts to PKCS#7 padding only (not the last pad byte): refused
    because `strip` compares every pad byte, not only the last -/
def exPadTampered : Attr := [(asc ".encoding", asc "UTF-8"), (kKeySafe, renderKeySafe id toyDec [exPair]),
  (kData, (sealBlob toyEnc (exTag exDk exCfg) 16 exDk exIv exCfg).set 20 0)]

theorem exSafe_locs : fromText toy (renderKeySafe id toyDec [exPair]) = .ok [exPair.toLoc] :=
  fromText_render toy id toyDec toy_laws.2.1 toy_laws.2.2 [exPair] (by simp) (by
    intro ps hps
    rw [List.mem_singleton.mp hps]
    exact ⟨by decide +kernel, by simp [exPair, sealBlob, exIv]⟩)

theorem exUnseal : unsealWithPhrase toy exPw [exPair.toLoc] = .ok (exDk, exPair.mac) := by
  have h : unlockPair toy exPair.phrase exPair.mac exPair.data exPw = .ok exDk :=
    unlockPair_sealed toy toyEnc id toy_laws.1 toy_laws.2.1 exPhrase exPw (cn := asc "AES-128") (alg := asc "sha1")
      (by decide +kernel) ⟨by decide +kernel, rfl, rfl, by decide +kernel⟩ rfl
  rw [PairSpec.toLoc, unsealWithPhrase, h]

theorem exEntries_get (ks ed : Bytes) :
    attrGet [(asc ".encoding", asc "UTF-8"), (kKeySafe, ks), (kData, ed)] kKeySafe = some ks ∧
    attrGet [(asc ".encoding", asc "UTF-8"), (kKeySafe, ks), (kData, ed)] kData = some ed := by
  have h1 : asc ".encoding" ≠ kKeySafe := by decide +kernel
  have h2 : asc ".encoding" ≠ kData := by decide +kernel
  have h3 : kKeySafe ≠ kData := by decide +kernel
  simp [attrGet, List.find?, h1, h2, h3]

theorem exEntries_update (ks ed k v : Bytes) (h1 : asc ".encoding" ≠ k) (h2 : kKeySafe ≠ k) (h3 : kData ≠ k) :
    attrUpdate [(asc ".encoding", asc "UTF-8"), (kKeySafe, ks), (kData, ed)] [(k, v)] =
      [(asc ".encoding", asc "UTF-8"), (kKeySafe, ks), (kData, ed)] ++ [(k, v)] := by
  simp [attrUpdate, attrSet, h1, h2, h3]

end Hv.Vmx
