import Hv.Envelope
import HvProofs.Basic
import HvProofs.Outcome
namespace Hv.Envelope
open Hv

/-! Lemmas about the envelope / keystore model (Hv/Envelope.lean), in two parts: what a file written in the format reads back
    as (C16), and what the readers can return on arbitrary bytes (C11, C12). -/

theorem BLOCK_eq : BLOCK = 4096 := rfl
theorem HDR_eq : HDR = 512 := rfl
theorem magicPos_eq : magicPos = (0, 21) := rfl
theorem sizeF_eq : sizeF = ⟨504, 4, false, 0, 32⟩ := rfl
theorem verF_eq : verF = ⟨508, 4, false, 0, 32⟩ := rfl
theorem AEAD_SIZE_eq : AEAD_SIZE = 4096 := rfl
theorem aeadData_eq : aeadData = (32, 4056) := rfl
theorem aeadSizeF_eq : aeadSizeF = ⟨4088, 4, false, 0, 32⟩ := rfl
theorem aeadVerF_eq : aeadVerF = ⟨4092, 4, false, 0, 32⟩ := rfl
theorem CF_SIZE_eq : CF_SIZE = 512 := rfl
theorem padF_eq : padF = ⟨504, 4, false, 0, 32⟩ := rfl
theorem tInvalid_eq : tInvalid = 0 := rfl
theorem tString_eq : tString = 11 := rfl
theorem tBytes_eq : tBytes = 12 := rfl
theorem ENV_VERSION_eq : ENV_VERSION = 2 := rfl
theorem AEAD_VERSION_eq : AEAD_VERSION = 1 := rfl
theorem N_FRAME_BLOCKS_eq : N_FRAME_BLOCKS = 2 := rfl
theorem DEC_TAIL_eq : DEC_TAIL = 512 := rfl
theorem DEC_STRIP_eq : DEC_STRIP = 4096 := rfl
theorem RESERVED_eq : RESERVED = 2 := rfl
theorem PACK_ZEROS_eq : PACK_ZEROS = 512 := rfl
theorem TERM_eq : TERM = 4 := rfl
theorem PACK_MAGIC_eq : PACK_MAGIC = FILE_MAGIC := rfl
-- by `decide`, not `rfl`: it is used by `simp only` on the condition of an `if`, where an `rfl` lemma rewrites the condition and
-- leaves the `Decidable` instance behind
theorem DEC_CIPHER_GCM_eq : DEC_CIPHER_GCM = CIPHER_GCM := by decide
theorem PACK_MAGIC_length : PACK_MAGIC.length = 21 := rfl

/-! ## a written file read back -/

theorem sub_mid (a b c : Bytes) (off len : Nat) (ha : a.length = off) (hb : b.length = len) :
    sub (a ++ b ++ c) off len = b := by
  simp only [sub, List.append_assoc]
  rw [List.drop_left' ha, List.take_left' hb]

theorem field_le32 (pre post : Bytes) (off v : Nat) (hp : pre.length = off) (hv : v < 2 ^ 32) :
    (Field.mk off 4 false 0 32).decode (sub (pre ++ leBytes 4 v ++ post) off 4) = v := by
  rw [sub_mid pre _ post off 4 hp (leBytes_length 4 v)]
  exact decode_le off 4 32 v (by decide) (by simpa using hv)

/-! ### attributes: what a well-formed attribute is, and `read ∘ pack = id` -/

/-- value range of the integer attribute types (tied to the extracted type map by `C16.int_ranges_spec`) -/
def intRange : Nat → Option (Int × Int)
  | 1 => some (0, 2 ^ 8) | 2 => some (0, 2 ^ 16) | 3 => some (0, 2 ^ 32) | 4 => some (0, 2 ^ 64)
  | 5 => some (-(2 ^ 7), 2 ^ 7) | 6 => some (-(2 ^ 15), 2 ^ 15) | 7 => some (-(2 ^ 31), 2 ^ 31) | 8 => some (-(2 ^ 63), 2 ^ 63)
  | _ => none

/-- `v` is a legal value of attribute type `t` -/
def ValOk (t : Nat) : Val → Prop
  | .str s => t = 11 ∧ (∀ b ∈ s, b ≠ 0) ∧ utf8Valid s = true
  | .bytes b => t = 12 ∧ b.length < 2 ^ 63
  | .int x => ∃ lo hi, intRange t = some (lo, hi) ∧ lo ≤ x ∧ x < hi
  | .f32 bits => t = 9 ∧ bits < 2 ^ 32 ∧ f32Repack bits = bits          -- not a signalling NaN
  | .f64 bits => t = 10 ∧ bits < 2 ^ 64

/-- a well-formed attribute: NUL-free valid-UTF-8 name, value in the range of its type -/
structure WFAttr (a : Attr) : Prop where
  name_nonul : ∀ b ∈ a.name, b ≠ 0
  name_utf8 : utf8Valid a.name = true
  val_ok : ValOk a.typ a.val

/-- used by `readVal_pack` for all eight integer types at once: behind a range of `intRange` stands a row of the type map with kind 1,
    a width `w` and a sign flag `sg`, and the range is that of a `w`-byte (un)signed integer -/
theorem intRange_row {t : Nat} {lo hi : Int} (h : intRange t = some (lo, hi)) :
    ∃ w sg, typeRow t = some (t, 1, w, sg) ∧ t ≠ tString ∧ t ≠ tBytes ∧ 0 < w ∧
      (lo, hi) = if sg = 1 then (-((2 ^ (8 * w - 1) : Nat) : Int), ((2 ^ (8 * w - 1) : Nat) : Int))
        else (0, ((2 ^ (8 * w) : Nat) : Int)) := by
  unfold intRange at h
  split at h <;> cases h <;> exact ⟨_, _, rfl, by decide, by decide, by decide, rfl⟩

theorem emod_toNat_lt (x : Int) {M : Nat} (hM : 0 < M) : (x % (M : Int)).toNat < M := by
  have := Int.emod_lt_of_pos x (show (0 : Int) < M by omega)
  omega

theorem unsigned_wrap {M : Nat} {x : Int} (hlo : 0 ≤ x) (hhi : x < M) : ((x % (M : Int)).toNat : Int) = x := by
  rw [Int.emod_eq_of_lt hlo hhi]; omega

/-- two's complement: what `struct.pack` stores of a signed integer in range, the reader reinterprets as that integer -/
theorem toSigned_wrap {bits : Nat} (hb : 0 < bits) {x : Int}
    (hlo : -((2 ^ (bits - 1) : Nat) : Int) ≤ x) (hhi : x < ((2 ^ (bits - 1) : Nat) : Int)) :
    toSigned bits (x % ((2 ^ bits : Nat) : Int)).toNat = x := by
  have hM : 2 ^ bits = 2 * 2 ^ (bits - 1) := by rw [← Nat.pow_succ']; congr 1; omega
  unfold toSigned
  generalize 2 ^ (bits - 1) = H at *
  rw [hM]
  by_cases hx : 0 ≤ x
  · rw [Int.emod_eq_of_lt hx (by omega), if_pos (by omega)]
    omega
  · rw [← Int.add_emod_right, Int.emod_eq_of_lt (by omega) (by omega), if_neg (by omega)]
    omega

theorem cstr_append (s rest : Bytes) (h : ∀ b ∈ s, b ≠ 0) : cstr (s ++ 0 :: rest) = some (s, rest) := by
  induction s with
  | nil => simp [cstr]
  | cons b s ih =>
    have hb : b ≠ 0 := h b (by simp)
    have ih' := ih (fun x hx => h x (by simp [hx]))
    simp only [List.cons_append, cstr, hb, if_false, ih']

theorem cstr_length {b s r : Bytes} (h : cstr b = some (s, r)) : r.length < b.length := by
  induction b generalizing s r with
  | nil => simp [cstr] at h
  | cons x t ih =>
    simp only [cstr] at h
    split at h
    · simp only [Option.some.injEq, Prod.mk.injEq] at h
      obtain ⟨_, rfl⟩ := h; simp
    · split at h
      · cases h
      · rename_i s' r' hc
        simp only [Option.some.injEq, Prod.mk.injEq] at h
        obtain ⟨_, rfl⟩ := h
        have := ih hc
        simp only [List.length_cons]; omega

theorem readVal_num {t c kind w sg n : Nat} (hrow : typeRow t = some (c, kind, w, sg)) (hs : t ≠ tString) (hb : t ≠ tBytes)
    (hn : n < 256 ^ w) (rest : Bytes) :
    readVal t (leBytes w n ++ rest) =
      if kind = 1 then some (.ok (.int (if sg = 1 then toSigned (8 * w) n else (n : Int)), rest))
      else if kind = 2 then some (.ok (if w = 4 then .f32 n else .f64 n, rest))
      else some (.error .other) := by
  have hl : ¬ ((leBytes w n ++ rest).length < w) := by simp [leBytes_length]
  simp only [readVal, hrow, if_neg hs, if_neg hb, if_neg hl, List.take_left' (leBytes_length w n),
    List.drop_left' (leBytes_length w n), leNat_leBytes_lt w n hn]

theorem readVal_pack (t : Nat) (v : Val) (hv : ValOk t v) (rest : Bytes) :
    readVal t (packVal t v ++ rest) = some (.ok (v, rest)) := by
  cases v with
  | str s =>
    obtain ⟨rfl, hn, hu⟩ := hv
    simp only [readVal, show typeRow 11 = some (11, 0, 0, 0) from rfl, tString_eq, if_true, packVal, List.append_assoc,
      List.singleton_append, cstr_append s rest hn, hu]
  | bytes b =>
    obtain ⟨rfl, hl⟩ := hv
    have h8 : ¬ ((leBytes 8 b.length ++ (b ++ rest)).length < 8) := by simp [leBytes_length]
    have hnot : ¬ (b.length ≥ 2 ^ 63) := by omega
    simp only [readVal, show typeRow 12 = some (12, 0, 0, 0) from rfl, tString_eq, tBytes_eq, packVal, List.append_assoc, if_true,
      if_neg h8, List.take_left' (leBytes_length 8 _), List.drop_left' (leBytes_length 8 _),
      leNat_leBytes_lt 8 b.length (by omega), if_neg hnot, List.take_left' rfl, List.drop_left' rfl]
    simp
  | f32 bits =>
    obtain ⟨rfl, hl, hq⟩ := hv
    rw [packVal, hq, readVal_num (show typeRow 9 = some (9, 2, 4, 0) from rfl) (by decide) (by decide) (by omega)]
    rfl
  | f64 bits =>
    obtain ⟨rfl, hl⟩ := hv
    rw [packVal, readVal_num (show typeRow 10 = some (10, 2, 8, 0) from rfl) (by decide) (by decide) (by omega)]
    rfl
  | int x =>
    obtain ⟨lo, hi, hr, hlo, hhi⟩ := hv
    obtain ⟨w, sg, hrow, hs, hb, hw, hr⟩ := intRange_row hr
    have h256 : 256 ^ w = 2 ^ (8 * w) := by rw [Nat.pow_mul]
    rw [packVal, intWidth, hrow, readVal_num hrow hs hb (h256 ▸ emod_toNat_lt x (Nat.pow_pos (by decide))), if_pos rfl]
    by_cases hsg : sg = 1
    · rw [if_pos hsg] at hr ⊢
      cases hr
      rw [toSigned_wrap (by omega) hlo hhi]
    · rw [if_neg hsg] at hr ⊢
      cases hr
      rw [unsigned_wrap hlo hhi]

theorem ValOk_typ {t : Nat} {v : Val} (h : ValOk t v) : 1 ≤ t ∧ t ≤ 12 := by
  cases v with
  | str _ | bytes _ | f32 _ | f64 _ => obtain ⟨ht, -⟩ := h; omega
  | int x =>
    obtain ⟨lo, hi, hr, -⟩ := h
    unfold intRange at hr
    split at hr <;> first | omega | cases hr

theorem readOne_pack (a : Attr) (h : WFAttr a) (rest : Bytes) : readOne (packAttr a ++ rest) = .attr a rest := by
  obtain ⟨h1, h12⟩ := ValOk_typ h.val_ok
  have hto : (UInt8.ofNat a.typ).toNat = a.typ := by
    simp only [UInt8.toNat_ofNat']; omega
  have hne : ¬ (a.typ = tInvalid) := by rw [tInvalid_eq]; omega
  simp only [packAttr, zeros, List.replicate, List.cons_append, List.nil_append, List.append_assoc, readOne, RESERVED_eq,
    List.drop_succ_cons, List.drop_zero, cstr_append a.name _ h.name_nonul, h.name_utf8, hto, if_neg hne,
    readVal_pack a.typ a.val h.val_ok rest]
  simp

theorem readList_pack (as : List Attr) (h : ∀ a ∈ as, WFAttr a) (rest : Bytes) (fuel : Nat) (hf : as.length < fuel) :
    readList fuel (packBody as ++ 0 :: rest) = .ok as := by
  induction as generalizing fuel with
  | nil =>
    cases fuel with
    | zero => omega
    | succ f => simp [readList, packBody, readOne, tInvalid_eq]
  | cons a as ih =>
    cases fuel with
    | zero => omega
    | succ f =>
      have ha := h a (by simp)
      have ih' := ih (fun x hx => h x (by simp [hx])) f (by simp at hf; omega)
      simp only [packBody, List.append_assoc, readList, readOne_pack a ha, ih']

theorem packBody_length_ge (as : List Attr) : as.length ≤ (packBody as).length := by
  induction as with
  | nil => simp [packBody]
  | cons a as ih =>
    have : 0 < (packAttr a).length := by simp [packAttr]
    simp only [packBody, List.length_cons, List.length_append]; omega

theorem foldl_dictSet_fresh (acc as : List Attr) (h : ((acc ++ as).map (·.name)).Nodup) :
    as.foldl dictSet acc = acc ++ as := by
  induction as generalizing acc with
  | nil => simp
  | cons a as ih =>
    have hset : dictSet acc a = acc ++ [a] := by
      have hfresh : ∀ x ∈ acc, x.name ≠ a.name := by
        intro x hx he
        simp only [List.map_append, List.map_cons, List.nodup_append] at h
        exact h.2.2 x.name (List.mem_map_of_mem hx) a.name (by simp) he
      clear h ih
      induction acc with
      | nil => rfl
      | cons x xs ihx =>
        have hx : x.name ≠ a.name := hfresh x (by simp)
        simp only [dictSet, if_neg hx, List.cons_append]
        rw [ihx (fun y hy => hfresh y (by simp [hy]))]
    simp only [List.foldl_cons, hset]
    rw [ih (acc ++ [a]) (by simpa using h)]
    simp

theorem readAttrs_pack (as : List Attr) (h : ∀ a ∈ as, WFAttr a) (hnd : (as.map (·.name)).Nodup) (rest : Bytes) :
    readAttrs (packBody as ++ 0 :: rest) = .ok as := by
  unfold readAttrs
  rw [readList_pack as h rest _ (by have := packBody_length_ge as; simp only [List.length_append, List.length_cons]; omega)]
  simp only
  rw [foldl_dictSet_fresh [] as (by simpa using hnd)]
  simp

/-! ### the header block and the two footers as the writer lays them out; `Envelope.__init__` on the written file -/

theorem fileHeader_length (sz v : Nat) : (fileHeader sz v).length = 512 := by
  simp only [fileHeader, HDR_eq, sizeF_eq, verF_eq, PACK_MAGIC_length, List.length_append, leBytes_length, zeros_length]

theorem padTo_eq (b : Bytes) (blk : Nat) (h0 : 0 < b.length) (h : b.length ≤ blk) : padTo b blk = b ++ zeros (blk - b.length) := by
  unfold padTo
  rcases Nat.lt_or_eq_of_le h with hlt | heq
  · rw [Nat.mod_eq_of_lt hlt, if_neg (by omega)]
  · rw [heq, Nat.mod_self, if_pos rfl, Nat.sub_self]; exact (List.append_nil b).symm

section
-- every lemma of this section takes `as v hfit`, in this order, before its own arguments
variable (as : List Attr) (v : Nat) (hfit : 512 + (packBody as).length + 4 ≤ 4096)
include hfit

theorem packHeader_canonical :
    packHeader as v = fileHeader 3584 v ++ packBody as ++ zeros (3584 - (packBody as).length) := by
  have hlen : (zeros PACK_ZEROS ++ packAttrs as).length = 512 + (packBody as).length + 4 := by
    simp only [packAttrs, PACK_ZEROS_eq, TERM_eq, List.length_append, zeros_length]; omega
  have hs : padTo (zeros PACK_ZEROS ++ packAttrs as) BLOCK = zeros 512 ++ (packBody as ++ zeros (3584 - (packBody as).length)) := by
    rw [padTo_eq _ _ (by omega) (by rw [hlen, BLOCK_eq]; exact hfit), hlen, BLOCK_eq, PACK_ZEROS_eq, packAttrs, TERM_eq,
      List.append_assoc, List.append_assoc, ← zeros_append]
    congr 3; omega
  have hl : (padTo (zeros PACK_ZEROS ++ packAttrs as) BLOCK).length = 4096 := by
    rw [hs]; simp only [List.length_append, zeros_length]; omega
  simp only [packHeader, patch, hl, HDR_eq, List.take_zero, List.nil_append, fileHeader_length, Nat.zero_add]
  rw [hs, List.drop_left' (zeros_length 512), List.append_assoc]

theorem packHeader_length : (packHeader as v).length = 4096 := by
  rw [packHeader_canonical as v hfit]
  simp only [List.length_append, fileHeader_length, zeros_length]; omega

theorem packHeader_reads_back (h : ∀ a ∈ as, WFAttr a) (hnd : (as.map (·.name)).Nodup) :
    readAttrs (((packHeader as v).take BLOCK).drop HDR) = .ok as := by
  rw [BLOCK_eq, HDR_eq, List.take_of_length_le (by rw [packHeader_length as v hfit]; omega), packHeader_canonical as v hfit,
    List.append_assoc, List.drop_left' (fileHeader_length 3584 v)]
  have hz : zeros (3584 - (packBody as).length) = 0 :: zeros (3584 - (packBody as).length - 1) := by
    have : 3584 - (packBody as).length = (3584 - (packBody as).length - 1) + 1 := by omega
    rw [this]; simp [zeros, List.replicate_succ]
  rw [hz]
  exact readAttrs_pack as h hnd _

end

section
-- both lemmas of this section take `am tag ham htag`
variable (am tag : Bytes) (ham : am.length = 32) (htag : tag.length ≤ 4056)
include ham htag

theorem aeadFooter_length : (aeadFooter am tag).length = 4096 := by
  simp only [aeadFooter, aeadData_eq, aeadSizeF_eq, aeadVerF_eq, List.length_append, leBytes_length, zeros_length, ham]; omega

theorem aeadFooter_fields :
    aeadVerF.decode (sub (aeadFooter am tag) aeadVerF.off aeadVerF.width) = AEAD_VERSION ∧
    (sub (aeadFooter am tag) aeadData.1 aeadData.2).take
      (aeadSizeF.decode (sub (aeadFooter am tag) aeadSizeF.off aeadSizeF.width)) = tag := by
  simp only [aeadFooter, aeadData_eq, aeadSizeF_eq, aeadVerF_eq, AEAD_VERSION_eq]
  refine ⟨?_, ?_⟩
  · have := field_le32 (am ++ tag ++ zeros (4056 - tag.length) ++ leBytes 4 tag.length) [] 4092 1
      (by simp only [List.length_append, leBytes_length, zeros_length, ham]; omega) (by decide)
    rwa [List.append_nil] at this
  · rw [field_le32 _ (leBytes 4 1) 4088 tag.length ?_ (by omega)]
    · have h2 := sub_mid am (tag ++ zeros (4056 - tag.length)) (leBytes 4 tag.length ++ leBytes 4 1) 32 4056 ham
        (by simp only [List.length_append, zeros_length]; omega)
      simp only [List.append_assoc] at h2 ⊢
      rw [h2, List.take_left' rfl]
    · simp only [List.length_append, zeros_length, ham]; omega

end

theorem cryptoFooter_length (m : Bytes) (k : Nat) (hm : m.length = 504) : (cryptoFooter m k).length = 512 := by
  simp only [cryptoFooter, CF_SIZE_eq, padF_eq, List.length_append, leBytes_length, zeros_length, hm]

theorem cryptoFooter_padding (m : Bytes) (k : Nat) (hm : m.length = 504) (hk : k < 2 ^ 32) :
    padF.decode (sub (cryptoFooter m k) padF.off padF.width) = k := by
  simp only [cryptoFooter, padF_eq]
  exact field_le32 m _ 504 k hm hk

theorem fileHeader_fields (sz v : Nat) (hv : v < 2 ^ 32) (rest : Bytes) :
    sub (fileHeader sz v ++ rest) magicPos.1 magicPos.2 = FILE_MAGIC ∧
    verF.decode (sub (fileHeader sz v ++ rest) verF.off verF.width) = v := by
  simp only [fileHeader, HDR_eq, magicPos_eq, sizeF_eq, verF_eq, PACK_MAGIC_length, ← PACK_MAGIC_eq]
  refine ⟨?_, ?_⟩
  · simp only [List.append_assoc]
    exact sub_mid [] PACK_MAGIC _ 0 21 rfl PACK_MAGIC_length
  · rw [List.append_assoc _ (zeros _) rest]
    exact field_le32 _ _ 508 v (by simp only [List.length_append, zeros_length, leBytes_length, PACK_MAGIC_length]) hv

theorem openEnv_written (as : List Attr) (ct am tag : Bytes) (ci kh : Attr)
    (h : ∀ a ∈ as, WFAttr a) (hnd : (as.map (·.name)).Nodup) (hfit : 512 + (packBody as).length + 4 ≤ 4096)
    (hreq : REQUIRED.any (fun n => (getAttr as n).isNone) = false)
    (hci : getAttr as nmCipher = some ci) (hciv : ci.val = .str CIPHER_GCM) (hkh : getAttr as nmKeyHash = some kh)
    (ham : am.length = 32) (htag : tag.length ≤ 4056) :
    openEnv (packHeader as 2 ++ ct ++ aeadFooter am tag) =
      .ok { version := 2, attrs := as, cipherName := CIPHER_GCM, keyHash := kh.val, iv := (getAttr as nmIv).map (·.val),
            digest := tag, size := (ct.length : Int), data := ct } := by
  have hpl := packHeader_length as 2 hfit
  have hfl := aeadFooter_length am tag ham htag
  have hblk : (packHeader as 2 ++ ct ++ aeadFooter am tag).take BLOCK = packHeader as 2 := by
    rw [List.append_assoc, List.take_left' (by rw [hpl]; rfl)]
  have hrd := packHeader_reads_back as 2 hfit h hnd
  have hcan := packHeader_canonical as 2 hfit
  have hff := fileHeader_fields 3584 2 (by decide) (packBody as ++ zeros (3584 - (packBody as).length))
  rw [← List.append_assoc, ← hcan] at hff
  obtain ⟨hf1, hf2⟩ := aeadFooter_fields am tag ham htag
  have hlen : (packHeader as 2 ++ ct ++ aeadFooter am tag).length = 4096 + ct.length + 4096 := by
    simp only [List.length_append, hpl, hfl]
  have hfoot : (packHeader as 2 ++ ct ++ aeadFooter am tag).drop (4096 + ct.length + 4096 - 4096) = aeadFooter am tag :=
    List.drop_left' (by simp only [List.length_append, hpl]; omega)
  have hdata : ((packHeader as 2 ++ ct ++ aeadFooter am tag).drop 4096).take (4096 + ct.length + 4096 - 2 * 4096) = ct := by
    rw [List.append_assoc, List.drop_left' hpl, List.take_left' (by omega)]
  have htk : (packHeader as 2).take BLOCK = packHeader as 2 := List.take_of_length_le (by rw [hpl, BLOCK_eq]; omega)
  rw [htk] at hrd
  unfold openEnv
  simp only [hblk, hrd, hreq, hci, hkh, hciv, hff.1, hff.2]
  simp only [hpl, BLOCK_eq, HDR_eq, AEAD_SIZE_eq, ENV_VERSION_eq, AEAD_VERSION_eq, N_FRAME_BLOCKS_eq, hlen, hfoot, hf1, hf2, hdata]
  simp only [Nat.reduceLT, ↓reduceIte, ne_eq, not_true_eq_false, Bool.false_eq_true, Int.natCast_add,
    Int.cast_ofNat_Int, Nat.reduceMul]
  have hnl : ¬ (4096 + ct.length + 4096 < 4096) := by omega
  have hsz : (4096 + (ct.length : Int) + 4096 - 8192) = (ct.length : Int) := by omega
  rw [if_neg hnl, hsz]

/-! ## the readers on arbitrary bytes: what they can return, progress, termination -/

/-- the fuel of the UTF-8 validator is never the reason for a `false` -/
theorem utf8ValidF_fuel : ∀ (f1 f2 : Nat) (b : Bytes), b.length < f1 → b.length < f2 → utf8ValidF f1 b = utf8ValidF f2 b := by
  intro f1
  induction f1 with
  | zero => intro f2 b h; omega
  | succ f1 ih =>
    intro f2 b h1 h2
    obtain ⟨f2, rfl⟩ : ∃ k, f2 = k + 1 := ⟨f2 - 1, by omega⟩
    -- the recursive calls are on proper suffixes of `b`; taking `b` apart first lets the inner matches reduce
    have hr : ∀ s : Bytes, s.length < b.length → utf8ValidF f1 s = utf8ValidF f2 s :=
      fun s hs => ih f2 s (by omega) (by omega)
    match b, hr with
    | [], _ => rfl
    | [_], hr => simp only [utf8ValidF, hr [] (by simp +arith)]
    | [_, b1], hr => simp only [utf8ValidF, hr [b1] (by simp +arith), hr [] (by simp +arith)]
    | [_, b1, b2], hr => simp only [utf8ValidF, hr [b1, b2] (by simp +arith), hr [b2] (by simp +arith), hr [] (by simp +arith)]
    | _ :: b1 :: b2 :: b3 :: r, hr =>
      simp only [utf8ValidF, hr (b1 :: b2 :: b3 :: r) (by simp +arith), hr (b2 :: b3 :: r) (by simp +arith),
        hr (b3 :: r) (by simp +arith), hr r (by simp +arith)]

/-- the one place that walks `readVal`: per shape of its result, the fact the callers need (errors are `value`/`other`; a value
    leaves no more input than it was given).  Used by `cases`/`match` on `readVal t b` next to this statement (`readOne_cases`). -/
theorem readVal_cases (t : Nat) (b : Bytes) :
    match readVal t b with
    | none => True
    | some (.error e) => e = .value ∨ e = .other
    | some (.ok (_, rest)) => rest.length ≤ b.length := by
  have hdrop : ∀ (n : Nat) (l : Bytes), (l.drop n).length ≤ l.length := fun n l => by rw [List.length_drop]; omega
  unfold readVal
  cases typeRow t with
  | none => exact .inr rfl
  | some row =>
    obtain ⟨c, kind, w, sg⟩ := row
    dsimp only
    by_cases hs : t = tString
    · rw [if_pos hs]
      cases hc : cstr b with
      | none => trivial
      | some p =>
        obtain ⟨s, r⟩ := p
        dsimp only
        by_cases hu : utf8Valid s = true
        · rw [if_pos hu]; exact Nat.le_of_lt (cstr_length hc)
        · rw [if_neg hu]; exact .inl rfl
    rw [if_neg hs]
    by_cases hb : t = tBytes
    · rw [if_pos hb]
      by_cases h8 : b.length < 8
      · rw [if_pos h8]; trivial
      rw [if_neg h8]
      by_cases hn : leNat (b.take 8) ≥ 2 ^ 63
      · rw [if_pos hn]; exact .inr rfl
      · rw [if_neg hn]; exact Nat.le_trans (hdrop _ _) (hdrop _ _)
    rw [if_neg hb]
    by_cases hk1 : kind = 1
    · rw [if_pos hk1]
      by_cases hw : b.length < w
      · rw [if_pos hw]; trivial
      · rw [if_neg hw]; exact hdrop w b
    rw [if_neg hk1]
    by_cases hk2 : kind = 2
    · rw [if_pos hk2]
      by_cases hw : b.length < w
      · rw [if_pos hw]; trivial
      · rw [if_neg hw]; exact hdrop w b
    · rw [if_neg hk2]; exact .inr rfl

theorem readOne_cases (b : Bytes) :
    match readOne b with
    | .stop => True
    | .err e => e = .value ∨ e = .other
    | .attr _ rest => rest.length + 3 ≤ b.length := by
  unfold readOne
  match b with
  | [] => trivial
  | [_] => simp only [ite_self]
  | t :: flag :: b2 =>
    dsimp only
    by_cases ht : t.toNat = tInvalid
    · rw [if_pos ht]; trivial
    rw [if_neg ht]
    cases hc : cstr (b2.drop RESERVED) with
    | none => trivial
    | some p =>
      obtain ⟨name, b4⟩ := p
      dsimp only
      by_cases hu : utf8Valid name = false
      · rw [if_pos hu]; exact .inl rfl
      rw [if_neg hu]
      have hv := readVal_cases t.toNat b4
      have h1 := cstr_length hc
      rw [List.length_drop] at h1
      match readVal t.toNat b4, hv with
      | none, _ => trivial
      | some (.error e), hv => exact hv
      | some (.ok (v, rest)), hv => show rest.length + 3 ≤ b2.length + 1 + 1; omega

theorem readList_error : ∀ (fuel : Nat) (b : Bytes) (e : Err), b.length < fuel → readList fuel b = .error e →
    e = .value ∨ e = .other := by
  intro fuel
  induction fuel with
  | zero => intro b e h; omega
  | succ fuel ih =>
    intro b e hb h
    rw [readList] at h
    have hs := readOne_cases b
    match readOne b, hs, h with
    | .stop, _, h => cases h
    | .err x, hs, h => cases h; exact hs
    | .attr a rest, hs, h =>
      dsimp only at h
      cases hr : readList fuel rest with
      | ok as => rw [hr] at h; cases h
      | error x => rw [hr] at h; cases h; exact ih rest _ (by omega) hr

theorem readList_terminates (fuel : Nat) (b : Bytes) (hb : b.length < fuel) : readList fuel b ≠ .error .nonTermination :=
  fun h => by cases readList_error fuel b _ hb h <;> contradiction

theorem readAttrs_error {b : Bytes} {e : Err} (h : readAttrs b = .error e) : e = .value ∨ e = .other := by
  unfold readAttrs at h
  cases hr : readList (b.length + 1) b with
  | ok as => rw [hr] at h; cases h
  | error x => rw [hr] at h; cases h; exact readList_error (b.length + 1) b _ (by omega) hr

theorem readAttrs_terminates (b : Bytes) : readAttrs b ≠ .error .nonTermination :=
  fun h => by cases readAttrs_error h <;> contradiction

/-- everything `Envelope.__init__` has checked when it returns `env` (magic, version, the attributes parse and hold the required
    names, cipher name, footer present with version 1), and the two fields of `env` that C12 and C16 read off: `attrs`, `cipherName` -/
def OpenGates (file : Bytes) (env : Env) : Prop :=
  sub (file.take BLOCK) magicPos.1 magicPos.2 = FILE_MAGIC ∧
  verF.decode (sub (file.take BLOCK) verF.off verF.width) = ENV_VERSION ∧
  ∃ attrs, readAttrs ((file.take BLOCK).drop HDR) = .ok attrs ∧
    (∀ n ∈ REQUIRED, (getAttr attrs n).isSome) ∧
    (∃ ci, getAttr attrs nmCipher = some ci ∧ ci.val = .str CIPHER_GCM) ∧
    AEAD_SIZE ≤ file.length ∧
    aeadVerF.decode (sub (file.drop (file.length - BLOCK)) aeadVerF.off aeadVerF.width) = AEAD_VERSION ∧
    env.attrs = attrs ∧ env.cipherName = CIPHER_GCM

theorem openEnv_elim {motive : Except Err Env → Prop} (file : Bytes)
    (error : ∀ e, e = .eof ∨ e = .format ∨ e = .value ∨ e = .other → motive (.error e))
    (ok : ∀ env, OpenGates file env → motive (.ok env)) : motive (openEnv file) := by
  unfold openEnv
  refine iteInduction (fun _ => error _ (.inl rfl)) fun _ => ?_
  refine iteInduction (fun _ => error _ (.inr (.inl rfl))) fun hmagic => ?_
  refine iteInduction (fun _ => error _ (.inr (.inl rfl))) fun hver => ?_
  cases ha : readAttrs ((file.take BLOCK).drop HDR) with
  | error e => exact error _ ((readAttrs_error ha).elim (.inr ∘ .inr ∘ .inl) (.inr ∘ .inr ∘ .inr))
  | ok attrs =>
    refine iteInduction (fun _ => error _ (.inr (.inr (.inl rfl)))) fun hreq => ?_
    cases hci : getAttr attrs nmCipher with
    | none => exact error _ (.inr (.inr (.inl rfl)))
    | some ci =>
      cases hkh : getAttr attrs nmKeyHash with
      | none => exact error _ (.inr (.inr (.inl rfl)))
      | some kh =>
        refine iteInduction (fun _ => error _ (.inr (.inl rfl))) fun hcv => ?_
        refine iteInduction (fun _ => error _ (.inl rfl)) fun hlen => ?_
        refine iteInduction (fun _ => error _ (.inr (.inr (.inl rfl)))) fun hfv => ?_
        refine ok _ ⟨Decidable.not_not.mp hmagic, Decidable.not_not.mp hver, attrs, ha, ?_, ⟨ci, hci, Decidable.not_not.mp hcv⟩,
          Nat.le_of_not_lt hlen, Decidable.not_not.mp hfv, rfl, rfl⟩
        intro n hn
        cases hg : getAttr attrs n with
        | some a => rfl
        | none => exact absurd (List.any_eq_true.mpr ⟨n, hn, by rw [hg]; rfl⟩) hreq

theorem decrypt_ok {c : Crypto} {e : Env} {verify : Bool} {key aad out : Bytes}
    (h : decrypt c e verify key aad = .ok out) :
    Val.bytes (c.sha256 (e.cipherName ++ key)) = e.keyHash ∧ e.cipherName = DEC_CIPHER_GCM ∧
    ∃ iv, ivOf e = some iv ∧ aesKeyOk key = true ∧ 0 ≤ e.size ∧
      stripPlain (c.gcm key iv (aadOf e aad) e.data).1 = .ok out ∧
      (verify = true → (c.gcm key iv (aadOf e aad) e.data).2 = e.digest) := by
  unfold decrypt at h
  obtain ⟨hk, h⟩ := ok_of_ne_gate h
  obtain ⟨hc, h⟩ := ok_of_ne_gate h
  cases hiv : ivOf e with
  | none => rw [hiv] at h; cases h
  | some iv =>
    rw [hiv] at h
    obtain ⟨hkey, h⟩ := ok_of_gate h
    obtain ⟨hsz, h⟩ := ok_of_gate h
    cases hs : stripPlain (c.gcm key iv (aadOf e aad) e.data).1 with
    | error x => rw [hs] at h; cases h
    | ok o =>
      rw [hs] at h
      obtain ⟨hv, h⟩ := ok_of_gate h
      cases h
      exact ⟨hk, hc, iv, rfl, by simpa using hkey, Int.not_lt.mp hsz, hs,
        fun hvt => Decidable.not_not.mp fun hne => hv ⟨hvt, hne⟩⟩

/-! ## agreement of two crypto instances on a call (for C16 `model_uses_listed_calls_only`) -/

/-- two crypto instances give the same answer to a call -/
def agreesOn (c1 c2 : Crypto) : Call → Prop
  | .sha256 m => c1.sha256 m = c2.sha256 m
  | .pbkdf2 pw salt r => c1.pbkdf2 pw salt r = c2.pbkdf2 pw salt r
  | .gcm k iv a ct => c1.gcm k iv a ct = c2.gcm k iv a ct

end Hv.Envelope
