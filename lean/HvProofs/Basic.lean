/- Lemmas shared by the read-path proofs: slices and files, the arithmetic of blocks and sectors, integer codecs. -/
import Hv.Prim.Layout
namespace Hv

@[simp] theorem slice_length (g : Nat → UInt8) (off len : Nat) : (slice g off len).length = len := by
  simp [slice]

@[simp] theorem slice_zero (g : Nat → UInt8) (off : Nat) : slice g off 0 = [] := by simp [slice]

theorem slice_append (g : Nat → UInt8) (off a b : Nat) :
    slice g off (a + b) = slice g off a ++ slice g (off + a) b := by
  unfold slice
  rw [List.range_add, List.map_append, List.map_map]
  congr 1
  apply List.map_congr_left
  intro i _
  simp [Nat.add_assoc]

theorem slice_succ (g : Nat → UInt8) (off n : Nat) : slice g off (n + 1) = g off :: slice g (off + 1) n := by
  rw [Nat.add_comm n 1, slice_append]; rfl

theorem slice_take {g : Nat → UInt8} {off len k : Nat} (h : k ≤ len) :
    (slice g off len).take k = slice g off k := by
  rw [← Nat.add_sub_cancel' h, slice_append, List.take_left' (slice_length _ _ _)]

theorem slice_drop {g : Nat → UInt8} {off len k : Nat} (h : k ≤ len) :
    (slice g off len).drop k = slice g (off + k) (len - k) := by
  conv => lhs; rw [← Nat.add_sub_cancel' h, slice_append]
  rw [List.drop_left' (slice_length _ _ _)]

theorem slice_shift {g h : Nat → UInt8} {off off' len : Nat} (e : ∀ i, i < len → g (off + i) = h (off' + i)) :
    slice g off len = slice h off' len := by
  unfold slice
  apply List.map_congr_left
  intro i hi
  exact e i (by simpa using hi)

theorem slice_congr {g h : Nat → UInt8} {off len : Nat} (e : ∀ i, i < len → g (off + i) = h (off + i)) :
    slice g off len = slice h off len :=
  slice_shift e

theorem drop_take_slice (d : Bytes) (a n : Nat) (h : a + n ≤ d.length) :
    (d.drop a).take n = slice (fun i => d.getD i 0) a n := by
  apply List.ext_getElem
  · simp [slice_length]; omega
  · intro i h1 h2
    simp only [slice_length] at h2
    simp only [List.getElem_take, List.getElem_drop, slice, List.getElem_map, List.getElem_range]
    rw [List.getD_eq_getElem?_getD, List.getElem?_eq_getElem (by omega)]
    rfl

theorem zeros_eq_slice (g : Nat → UInt8) (off n : Nat) (h : ∀ i, i < n → g (off + i) = 0) :
    zeros n = slice g off n := by
  unfold slice zeros
  apply List.ext_getElem <;> simp
  intro i hi
  exact (h i hi).symm

@[simp] theorem zeros_length (n : Nat) : (zeros n).length = n := by simp [zeros]

theorem clamp_eq {off len size : Nat} (h : off + len ≤ size) : min len (size - off) = len :=
  Nat.min_eq_left (Nat.le_sub_of_add_le' h)

theorem clamp_add_le {off len size : Nat} (h : min len (size - off) ≠ 0) : off + min len (size - off) ≤ size := by
  have hle : off ≤ size := Nat.le_of_lt (Nat.lt_of_sub_ne_zero fun h0 => h (by rw [h0, Nat.min_zero]))
  exact Nat.le_trans (Nat.add_le_add_left (Nat.min_le_right _ _) _) (Nat.le_of_eq (Nat.add_sub_cancel' hle))

theorem File.read_eq_slice {f : File} {off len : Nat} (h : off + len ≤ f.size) :
    f.read off len = slice f.byte off len := by
  rw [File.read, clamp_eq h]

theorem File.read_length_le (f : File) (off len : Nat) : (f.read off len).length ≤ len := by
  rw [File.read, slice_length]; exact Nat.min_le_left _ _

theorem File.read_append (f : File) (a n m : Nat) :
    f.read a (n + m) = f.read a n ++ f.read (a + n) m := by
  unfold File.read
  by_cases h : a + n ≤ f.size
  · -- the first part is complete: split the clamped length at `n`
    have e : f.size - a = n + (f.size - (a + n)) := by
      rw [Nat.sub_add_eq, Nat.add_sub_cancel' (Nat.le_sub_of_add_le' h)]
    rw [clamp_eq h, e, Nat.add_min_add_left, slice_append]
  · -- the file ends inside the first part: the second is empty
    have hle : f.size ≤ a + n := Nat.le_of_lt (Nat.lt_of_not_le h)
    have e : f.size - a ≤ n := Nat.sub_le_of_le_add (Nat.add_comm a n ▸ hle)
    rw [Nat.min_eq_right e, Nat.min_eq_right (Nat.le_trans e (Nat.le_add_right n m)),
      Nat.sub_eq_zero_of_le hle, Nat.min_zero, slice_zero, List.append_nil]

theorem zeros_append (n m : Nat) : zeros (n + m) = zeros n ++ zeros m := by
  simp [zeros, List.replicate_append_replicate]

theorem slice_append_mul (g : Nat → UInt8) (a c n k : Nat) :
    slice g (a * k) ((c + n) * k) = slice g (a * k) (c * k) ++ slice g ((a + c) * k) (n * k) := by
  rw [Nat.add_mul, slice_append, Nat.add_mul]

theorem slice_drop_take (g : Nat → UInt8) (off len a b : Nat) (h : a + b ≤ len) :
    ((slice g off len).drop a).take b = slice g (off + a) b := by
  rw [slice_drop (Nat.le_trans (Nat.le_add_right a b) h), slice_take (Nat.le_sub_of_add_le' h)]

theorem read_drop_take (f : File) (a len o w : Nat) (h1 : o + w ≤ len) (h2 : a + o + w ≤ f.size) :
    ((f.read a len).drop o).take w = slice f.byte (a + o) w :=
  slice_drop_take _ _ _ _ _ (Nat.le_min.2 ⟨h1, Nat.le_sub_of_add_le' (by rw [← Nat.add_assoc]; exact h2)⟩)

theorem getElem_slice (g : Nat → UInt8) (off len i : Nat) (h : i < (slice g off len).length) :
    (slice g off len)[i] = g (off + i) := by
  simp [slice]

theorem slice_units (g : Nat → UInt8) (w : Nat) :
    ∀ n, slice g 0 (w * n) = ((List.range n).map fun k => slice g (w * k) w).flatten := by
  intro n
  induction n with
  | zero => rfl
  | succ n ih => simp [Nat.mul_succ, slice_append, ih, List.range_succ]

theorem take_pad (b : Bytes) (n : Nat) (h : b.length ≤ n) : (b ++ zeros n).take n = b ++ zeros (n - b.length) := by
  rw [List.take_append, List.take_of_length_le h]
  simp only [zeros, List.take_replicate]
  congr 2; omega

theorem block_arith (off unit n i : Nat) (hu : 0 < unit) (hn : off % unit + n ≤ unit) (hi : i < n) :
    (off + i) / unit = off / unit ∧ (off + i) % unit = off % unit + i := by
  have h : off + i = unit * (off / unit) + (off % unit + i) := by rw [← Nat.add_assoc, Nat.div_add_mod]
  have hlt : off % unit + i < unit := Nat.lt_of_lt_of_le (Nat.add_lt_add_left hi _) hn
  rw [h, Nat.mul_add_div hu, Nat.mul_add_mod, Nat.div_eq_of_lt hlt, Nat.mod_eq_of_lt hlt]
  exact ⟨rfl, rfl⟩

/-- after a chunk that ends on a unit boundary -/
theorem next_block (off unit n : Nat) (hu : 0 < unit) (hn : off % unit + n = unit) :
    (off + n) / unit = off / unit + 1 ∧ (off + n) % unit = 0 := by
  have h : off + n = unit * (off / unit + 1) := by
    conv => lhs; rw [← Nat.div_add_mod off unit, Nat.add_assoc, hn]
    rw [Nat.mul_succ]
  rw [h, Nat.mul_div_cancel_left _ hu, Nat.mul_mod_right]
  exact ⟨rfl, rfl⟩

/-- One step of a loop that serves `len` units from `off` and never crosses a multiple of `unit` in one piece:
    the piece `n` is not empty, stays inside the request and inside the unit, and when something is left over it
    ends on the next boundary. -/
theorem block_step {off unit len n : Nat} (hu : 0 < unit) (hl : len ≠ 0) (hn : min len (unit - off % unit) = n) :
    0 < n ∧ n ≤ len ∧ off % unit + n ≤ unit ∧
      (len - n ≠ 0 → (off + n) / unit = off / unit + 1 ∧ (off + n) % unit = 0) := by
  have hmod := Nat.mod_lt off hu
  have hd : off % unit + (unit - off % unit) = unit := Nat.add_sub_cancel' (Nat.le_of_lt hmod)
  subst hn
  refine ⟨Nat.lt_min.mpr ⟨Nat.pos_of_ne_zero hl, Nat.sub_pos_of_lt hmod⟩, Nat.min_le_left _ _,
    Nat.le_trans (Nat.add_le_add_left (Nat.min_le_right _ _) _) (Nat.le_of_eq hd), fun hr => ?_⟩
  -- something is left: the piece was cut by the unit, not by the request
  have : min len (unit - off % unit) = unit - off % unit :=
    Nat.min_eq_right (Nat.le_of_not_le fun h => hr (by rw [Nat.min_eq_left h, Nat.sub_self]))
  exact next_block off unit _ hu (by rw [this, hd])

/-! Slices that stay inside the unit of `off`, from a description of `g` on that unit: the hypothesis says what `g` is
    there, the conclusion turns the data the model has read into a slice of `g`. -/

theorem slice_unit_zero {g : Nat → UInt8} {off unit n : Nat} (hu : 0 < unit) (hn : off % unit + n ≤ unit)
    (h : ∀ o, o / unit = off / unit → g o = 0) : zeros n = slice g off n :=
  zeros_eq_slice g off n fun i hi => h _ (block_arith off unit n i hu hn hi).1

theorem slice_unit_congr {g g' : Nat → UInt8} {off unit n : Nat} (hu : 0 < unit) (hn : off % unit + n ≤ unit)
    (h : ∀ o, o / unit = off / unit → g o = g' o) : slice g' off n = slice g off n :=
  slice_congr fun i hi => (h _ (block_arith off unit n i hu hn hi).1).symm

theorem slice_unit_file {g f : Nat → UInt8} {off unit n : Nat} (base : Nat) (hu : 0 < unit)
    (hn : off % unit + n ≤ unit) (h : ∀ o, o / unit = off / unit → g o = f (base + o % unit)) :
    slice f (base + off % unit) n = slice g off n := by
  apply slice_shift
  intro i hi
  obtain ⟨h1, h2⟩ := block_arith off unit n i hu hn hi
  rw [h _ h1, h2, Nat.add_assoc]

theorem le_roundUp (L : Nat) {ss : Nat} (h : 0 < ss) : L ≤ (L + ss - 1) / ss * ss := by
  have := Nat.div_add_mod (L + ss - 1) ss
  have := Nat.mod_lt (L + ss - 1) h
  rw [Nat.mul_comm]; omega

theorem roundUp_lt (L : Nat) {ss : Nat} (h : 0 < ss) : (L + ss - 1) / ss * ss < L + ss := by
  have := Nat.div_mul_le_self (L + ss - 1) ss
  omega

theorem roundUp_of_mod {L ss : Nat} (h : 0 < ss) (hm : L % ss = 0) : (L + ss - 1) / ss * ss = L := by
  obtain ⟨k, rfl⟩ := Nat.dvd_of_mod_eq_zero hm
  rw [Nat.add_sub_assoc h, Nat.mul_add_div h, Nat.div_eq_of_lt (by omega), Nat.add_zero, Nat.mul_comm]

theorem mod_eq_zero_trans {n a ss : Nat} (ha : a % ss = 0) (hn : n % a = 0) : n % ss = 0 := by
  rw [← Nat.mod_mod_of_dvd n (Nat.dvd_of_mod_eq_zero ha), hn, Nat.zero_mod]

@[simp] theorem leBytes_length (n v : Nat) : (leBytes n v).length = n := by
  induction n generalizing v with
  | zero => rfl
  | succ n ih => simp [leBytes, ih]

theorem leNat_leBytes (n v : Nat) : leNat (leBytes n v) = v % 256 ^ n := by
  induction n generalizing v with
  | zero => simp [leBytes, leNat, Nat.mod_one]
  | succ n ih =>
    simp only [leBytes, leNat, ih]
    have h : (UInt8.ofNat (v % 256)).toNat = v % 256 := by
      simp [UInt8.toNat_ofNat']
    rw [h, Nat.pow_succ, Nat.mul_comm (256 ^ n) 256, Nat.mod_mul]

theorem leNat_leBytes_lt (n v : Nat) (h : v < 256 ^ n) : leNat (leBytes n v) = v := by
  rw [leNat_leBytes, Nat.mod_eq_of_lt h]

theorem leNat_lt (bs : Bytes) : leNat bs < 256 ^ bs.length := by
  induction bs with
  | nil => exact Nat.one_pos
  | cons b bs ih =>
    have := b.toNat_lt
    rw [leNat, List.length_cons, Nat.pow_succ]
    omega

theorem leNat_append (a b : Bytes) : leNat (a ++ b) = leNat a + 256 ^ a.length * leNat b := by
  induction a with
  | nil => simp [leNat]
  | cons x xs ih =>
    simp only [List.cons_append, leNat, ih, List.length_cons, Nat.pow_succ]
    grind

theorem beNat_foldl (bs : Bytes) : ∀ acc : Nat,
    bs.foldl (fun acc b => acc * 256 + b.toNat) acc = acc * 256 ^ bs.length + leNat bs.reverse := by
  induction bs with
  | nil => intro acc; simp [leNat]
  | cons b bs ih =>
    intro acc
    simp only [List.foldl_cons, ih, List.reverse_cons, leNat_append, List.length_reverse, List.length_cons, Nat.pow_succ, leNat]
    grind

theorem beNat_eq (bs : Bytes) : beNat bs = leNat bs.reverse := by
  simp [beNat, beNat_foldl]

@[simp] theorem beBytes_length (n v : Nat) : (beBytes n v).length = n := by simp [beBytes, leBytes_length]

theorem beNat_beBytes (n v : Nat) (h : v < 256 ^ n) : beNat (beBytes n v) = v := by
  simp [beNat_eq, beBytes, leNat_leBytes, Nat.mod_eq_of_lt h]

theorem decode_be (off w bits v : Nat) (hb : 2 ^ bits = 256 ^ w) (hv : v < 256 ^ w) :
    (⟨off, w, true, 0, bits⟩ : Field).decode (beBytes w v) = v := by
  simp only [Field.decode, if_true, beNat_beBytes w v hv, Nat.pow_zero, Nat.div_one, hb, Nat.mod_eq_of_lt hv]

theorem decode_le (off w bits v : Nat) (hb : 2 ^ bits = 256 ^ w) (hv : v < 256 ^ w) :
    (⟨off, w, false, 0, bits⟩ : Field).decode (leBytes w v) = v := by
  simp [Field.decode, leNat_leBytes_lt w v hv, hb, Nat.mod_eq_of_lt hv]

theorem field_be (fh : File) (base ssize k w bits v : Nat) (hb : 2 ^ bits = 256 ^ w) (hv : v < 256 ^ w)
    (hsz : base + ssize ≤ fh.size) (hs : slice fh.byte (base + k) w = beBytes w v) :
    fh.field base ssize ⟨k, w, true, 0, bits⟩ = .ok v := by
  unfold File.field
  rw [if_pos hsz, hs, decode_be k w bits v hb hv]

theorem field_le (fh : File) (base ssize k w bits v : Nat) (hb : 2 ^ bits = 256 ^ w) (hv : v < 256 ^ w)
    (hsz : base + ssize ≤ fh.size) (hs : slice fh.byte (base + k) w = leBytes w v) :
    fh.field base ssize ⟨k, w, false, 0, bits⟩ = .ok v := by
  unfold File.field
  rw [if_pos hsz, hs, decode_le k w bits v hb hv]

theorem slice_split {g : Nat → UInt8} {off : Nat} {a b : Bytes} (h : slice g off (a ++ b).length = a ++ b) :
    slice g off a.length = a ∧ slice g (off + a.length) b.length = b := by
  rw [List.length_append, slice_append] at h
  exact List.append_inj h (by simp)

theorem slice_eq_of (g : Nat → UInt8) (pos : Nat) (bs : Bytes) (h : ∀ i, i < bs.length → g (pos + i) = bs.getD i 0) :
    slice g pos bs.length = bs := by
  apply List.ext_getElem
  · simp
  · intro i h1 h2
    simp only [slice, List.getElem_map, List.getElem_range]
    rw [h i h2]
    simp [List.getD_eq_getElem?_getD, h2]

end Hv
