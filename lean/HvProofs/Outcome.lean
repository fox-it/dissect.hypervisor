/- Steps of proofs that follow a parser's control flow: cases on an `if`, refusal gates, `Except` binds. -/
namespace Hv

/-- a gate `if c then raise e else rest` that returned a value did not fire (also `do` notation's `if c then throw e`
    followed by `k`, which is `if c then throw e >>= k else k ()`) -/
theorem ok_of_gate {ε α : Type} {c : Prop} [Decidable c] {e : ε} {rest : Except ε α} {a : α}
    (h : (if c then .error e else rest) = .ok a) : ¬c ∧ rest = .ok a := by
  split at h
  · cases h
  · exact ⟨‹_›, h⟩

theorem ok_of_ne_gate {α ε β : Type} {a a' : α} [Decidable (a = a')] {e : ε} {rest : Except ε β} {b : β}
    (h : (if a ≠ a' then .error e else rest) = .ok b) : a = a' ∧ rest = .ok b :=
  (ok_of_gate h).imp_left Decidable.of_not_not

/-- the same for a gate function that answers `some e` to refuse and `none` to pass -/
theorem none_of_gate {ε : Type} {c : Prop} [Decidable c] {e : ε} {rest : Option ε}
    (h : (if c then some e else rest) = none) : ¬c ∧ rest = none := by
  split at h
  · cases h
  · exact ⟨‹_›, h⟩

theorem error_of_not_ok {ε α : Type} {x : Except ε α} (h : ∀ a, x ≠ .ok a) : ∃ e, x = .error e := by
  cases x with
  | error e => exact ⟨e, rfl⟩
  | ok a => exact absurd rfl (h a)

theorem bind_ok {ε α β : Type} {x : Except ε α} {f : α → Except ε β} {b : β}
    (h : (x >>= f) = .ok b) : ∃ a, x = .ok a ∧ f a = .ok b := by
  cases x with
  | error e => cases h
  | ok a => exact ⟨a, rfl, h⟩

/-- the commonest gate: a value is read and compared with the one accepted value -/
theorem ok_of_read_gate {ε α β : Type} {x : Except ε α} {a' : α} [DecidableEq α] {e : ε} {k : α → Except ε β} {b : β}
    (h : (x >>= fun a => if a ≠ a' then .error e else k a) = .ok b) : x = .ok a' := by
  obtain ⟨a, ha, h⟩ := bind_ok h
  obtain ⟨rfl, _⟩ := ok_of_ne_gate h
  exact ha

/-- Stated for variable continuations: with two concrete readers in their place, `rfl` on the error branch compares the
    readers before it looks at the error. -/
theorem bind_congr_ok {ε α β : Type} {x : Except ε α} {k k' : α → Except ε β} (h : ∀ a, x = .ok a → k a = k' a) :
    (x >>= k) = (x >>= k') := by
  cases x with
  | error e => rfl
  | ok a => exact h a rfl

theorem bind_ne_error {ε α β : Type} {x : Except ε α} {f : α → Except ε β} {e : ε}
    (hx : x ≠ .error e) (hf : ∀ a, x = .ok a → f a ≠ .error e) : (x >>= f) ≠ .error e := by
  cases x with
  | error e' => intro h; cases h; exact hx rfl
  | ok a => exact hf a rfl

theorem ite_ne_error {ε α : Type} {c : Prop} [Decidable c] {x y : Except ε α} {e : ε}
    (hx : x ≠ .error e) (hy : y ≠ .error e) : (if c then x else y) ≠ .error e :=
  iteInduction (motive := fun r => r ≠ Except.error e) (fun _ => hx) (fun _ => hy)

theorem mapM_ne_error {ε α β : Type} {f : α → Except ε β} {e : ε} :
    ∀ {l : List α}, (∀ a ∈ l, f a ≠ .error e) → l.mapM f ≠ .error e
  | [], _ => nofun
  | a :: t, h => by
    rw [List.mapM_cons]
    exact bind_ne_error (h a (by simp)) fun _ _ =>
      bind_ne_error (mapM_ne_error fun x hx => h x (by simp [hx])) fun _ _ => nofun

/-- `[f(m) for m in ms]` over `Except`: the comprehension yields a value only if every element does -/
theorem mapM_ok_mem {ε α β : Type} (f : α → Except ε β) :
    ∀ (ms : List α) (ls : List β), ms.mapM f = .ok ls → ∀ m ∈ ms, ∃ l, f m = .ok l
  | [], _, _, m, hm => by cases hm
  | a :: as, ls, h, m, hm => by
    rw [List.mapM_cons] at h
    obtain ⟨b, hb, h⟩ := bind_ok h
    obtain ⟨bs, hbs, _⟩ := bind_ok h
    rcases List.mem_cons.mp hm with rfl | hm'
    · exact ⟨b, hb⟩
    · exact mapM_ok_mem f as bs hbs m hm'

theorem mapM_map_ok {ε α β γ : Type} {f : β → Except ε γ} {g : α → β} {h : α → γ} :
    ∀ {l : List α}, (∀ a ∈ l, f (g a) = .ok (h a)) → (l.map g).mapM f = .ok (l.map h)
  | [], _ => rfl
  | a :: t, hl => by
    rw [List.map_cons, List.mapM_cons, hl a (by simp), mapM_map_ok fun x hx => hl x (by simp [hx])]
    rfl

/-! two `do` blocks walked side by side, the second being the first up to a map `g` of the result -/

theorem bind_map_congr {ε α β γ : Type} {x x' : Except ε α} {f : α → Except ε β} {f' : α → Except ε γ} {g : β → γ}
    (hx : x = x') (h : ∀ a, x = .ok a → f' a = (f a).map g) : x' >>= f' = (x >>= f).map g := by
  subst hx
  cases x with
  | error e => rfl
  | ok a => exact h a rfl

theorem ite_map_congr {ε β γ : Type} {c : Prop} [Decidable c] {a b : Except ε β} {a' b' : Except ε γ} {g : β → γ}
    (ha : c → a' = a.map g) (hb : ¬c → b' = b.map g) : (if c then a' else b') = (if c then a else b).map g := by
  split
  · exact ha ‹_›
  · exact hb ‹_›

theorem ite_else_congr {α : Type} {c : Prop} [Decidable c] {a b b' : α} (h : ¬c → b = b') :
    (if c then a else b) = (if c then a else b') :=
  ite_congr rfl (fun _ => rfl) h

theorem mapM_congr {ε α β : Type} {f f' : α → Except ε β} :
    ∀ {l : List α}, (∀ a ∈ l, f a = f' a) → l.mapM f = l.mapM f'
  | [], _ => rfl
  | a :: t, h => by
    rw [List.mapM_cons, List.mapM_cons, h a (List.mem_cons_self ..), mapM_congr fun b hb => h b (List.mem_cons_of_mem _ hb)]

theorem bind_nil_append {ε β : Type} (x : Except ε (List β)) : (x >>= fun r => .ok ([] ++ r)) = x := by
  cases x <;> rfl

end Hv
