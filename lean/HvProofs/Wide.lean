/-
  Arithmetic of wide offsets: the masks, shifts and bit-fields the readers use to decode file offsets keep every offset the
  formats can express (C13).
-/
import Hv.Qcow2
import Hv.Vmdk
import Hv.Vhdx
import Hv.Vhd
namespace Hv.Wide
open Hv

/-- a mask of the bits `[lo, hi)` keeps an offset below `2^hi` that is a multiple of `2^lo`, whatever flag bits
    outside `[lo, hi)` are or-ed into the entry -/
theorem mask_preserves (lo hi o f : Nat) (hlh : lo ≤ hi) (ho : o < 2 ^ hi) (hal : o % 2 ^ lo = 0)
    (hf : ∀ i, lo ≤ i → i < hi → f.testBit i = false) :
    (o ||| f) &&& ((2 ^ (hi - lo) - 1) <<< lo) = o := by
  apply Nat.eq_of_testBit_eq
  intro i
  simp only [Nat.testBit_and, Nat.testBit_or, Nat.testBit_shiftLeft, Nat.testBit_two_pow_sub_one]
  by_cases h1 : i < lo
  · have : o.testBit i = false := by
      have := Nat.testBit_mod_two_pow o lo i
      rw [hal] at this
      simp only [Nat.zero_testBit, h1, decide_true, Bool.true_and] at this
      exact this.symm
    simp [this, Nat.not_le.mpr h1]
  · have h1' : lo ≤ i := Nat.le_of_not_lt h1
    by_cases h2 : i < hi
    · have := hf i h1' h2
      have h3 : i - lo < hi - lo := by omega
      simp [this, h1', h3]
    · have h2' : hi ≤ i := Nat.le_of_not_lt h2
      have : o.testBit i = false := Nat.testBit_lt_two_pow (Nat.lt_of_lt_of_le ho (Nat.pow_le_pow_right (by omega) h2'))
      have h3 : ¬ (i - lo < hi - lo) := by omega
      simp [this, h3]

theorem and_mask_shiftLeft (e k w : Nat) : e &&& ((2 ^ w - 1) <<< k) = (e >>> k % 2 ^ w) <<< k := by
  apply Nat.eq_of_testBit_eq
  intro i
  simp only [Nat.testBit_and, Nat.testBit_shiftLeft, Nat.testBit_two_pow_sub_one, Nat.testBit_mod_two_pow,
    Nat.testBit_shiftRight]
  by_cases h : k ≤ i
  · simp [h, Nat.add_sub_cancel' h, Bool.and_comm]
  · simp [h]

theorem if_two_pow_testBit (c : Bool) (k i : Nat) (h : i ≠ k) : (if c then 2 ^ k else 0 : Nat).testBit i = false := by
  cases c
  · simp only [Bool.false_eq_true, if_false, Nat.zero_testBit]
  · rw [if_pos rfl, Nat.testBit_two_pow]
    simp
    omega

end Hv.Wide
