/-
  Footprint theorems for QCOW2 (C13, I/O clause): `_read` — the L1/L2 walk, `count_contiguous_subclusters`, the run
  reader, standard and extended L2 entries, compressed clusters — depends on the image file only through its size and
  the bytes named by `Hv.Footprint.qcow2Meta` (L2 entries of the guest clusters the request touches, compressed data),
  and on the data file only through its size and `Hv.Footprint.qcow2Data` (requested parts of the normal host clusters).
-/
import HvProofs.FootprintBasic
import HvProofs.Qcow2Runs
namespace Hv.Footprint
open Hv Hv.Qcow2 Hv.Extracted.qcow2

section qcow2

/-- the image object over other file contents -/
abbrev qWith (q : QCow2) (f' d' : File) : QCow2 := { q with fh := f', dataFile := d' }

theorem qcow2_l2Entry_congr (q : QCow2) (f' d' : File) (l2o idx : Nat) (hs : q.fh.size = f'.size)
    (h : Agree (qcow2Words q l2o idx) q.fh f') : q.l2Entry l2o idx = (qWith q f' d').l2Entry l2o idx := by
  unfold qcow2Words at h
  unfold QCow2.l2Entry
  show _ = (if l2o + 8 * (q.l2Size * (q.l2EntrySize / 8)) > f'.size then _ else
    if idx * q.l2EntrySize / 8 ≥ q.l2Size * (q.l2EntrySize / 8) then _ else
    if q.sub = true then (if idx * q.l2EntrySize / 8 + 1 ≥ q.l2Size * (q.l2EntrySize / 8) then _ else
        Except.ok (beNat (slice f'.byte (l2o + 8 * (idx * q.l2EntrySize / 8)) 8),
          beNat (slice f'.byte (l2o + 8 * (idx * q.l2EntrySize / 8 + 1)) 8)))
      else Except.ok (beNat (slice f'.byte (l2o + 8 * (idx * q.l2EntrySize / 8)) 8), 0))
  rw [← hs]
  dsimp only
  by_cases h1 : l2o + 8 * (q.l2Size * (q.l2EntrySize / 8)) > q.fh.size
  · rw [if_pos h1, if_pos h1]
  by_cases h2 : idx * q.l2EntrySize / 8 ≥ q.l2Size * (q.l2EntrySize / 8)
  · rw [if_neg h1, if_neg h1, if_pos h2, if_pos h2]
  rw [if_neg h1, if_neg h2] at h
  rw [if_neg h1, if_neg h1, if_neg h2, if_neg h2, ← h.head.slice]
  by_cases hsub : q.sub = true
  · rw [if_pos hsub] at h
    by_cases h3 : idx * q.l2EntrySize / 8 + 1 ≥ q.l2Size * (q.l2EntrySize / 8)
    · rw [if_pos hsub, if_pos hsub, if_pos h3, if_pos h3]
    · rw [if_neg h3] at h
      rw [if_pos hsub, if_pos hsub, if_neg h3, if_neg h3, ← h.tail.head.slice]
  · rw [if_neg hsub, if_neg hsub]

theorem qcow2_countLoop_congr (q : QCow2) (f' d' : File) (l2o l2Index sc : Nat) :
    ∀ k i st, (∀ j, i ≤ j → j < i + k → q.l2Entry l2o (l2Index + j) = (qWith q f' d').l2Entry l2o (l2Index + j)) →
      q.countLoop l2o l2Index sc k i st = (qWith q f' d').countLoop l2o l2Index sc k i st := by
  intro k
  induction k with
  | zero => intro i st _; rfl
  | succ k ih =>
    intro i st H
    have ih' : q.countLoop l2o l2Index sc k (i + 1) = (qWith q f' d').countLoop l2o l2Index sc k (i + 1) :=
      funext fun st' => ih (i + 1) st' fun j h1 h2 => H j (by omega) (by omega)
    rw [countLoop_succ, countLoop_succ, ← H i (Nat.le_refl _) (by omega), ← ih']
    rfl

theorem qcow2L2_of (q : QCow2) (l1 : Array Nat) (c l1e : Nat) (hl1 : q.l1 = .ok l1)
    (hl1e : l1[c / q.l2Size]? = some l1e) (hnz : l1e &&& L1E_OFFSET_MASK ≠ 0) :
    qcow2L2 q c = some (l1e &&& L1E_OFFSET_MASK) := by
  unfold qcow2L2
  simp only [hl1, hl1e, hnz, if_false]

/-- the clusters `count_contiguous_subclusters` may look at are clusters the request touches, in the same L2 table -/
theorem qcow2_ahead (q : QCow2) (g : Geom q) (offset length o l j : Nat) (h0 : offset ≤ o) (he : o + l = offset + length)
    (hl : 0 < l) (hj : j < (q.bn o l + (q.cs - 1)) / q.cs) :
    o / q.cs + j ∈ unitsTouched q.cs offset length ∧ (o / q.cs + j) / q.l2Size = o / q.cs / q.l2Size ∧
      (o / q.cs + j) % q.l2Size = o / q.cs % q.l2Size + j := by
  have hcs := cs_pos q
  have hl2 := g.l2_pos
  obtain ⟨hb1, hb2, hb3⟩ := bn_bounds q g o l hl
  have hjc : j * q.cs < q.bn o l := by
    have : (j + 1) * q.cs ≤ q.bn o l + (q.cs - 1) := (Nat.le_div_iff_mul_le hcs).1 hj
    rw [Nat.add_mul, Nat.one_mul] at this
    omega
  have hjl : j < q.l2Size - o / q.cs % q.l2Size := by
    apply Nat.lt_of_mul_lt_mul_right (a := q.cs)
    omega
  have hdm := Nat.div_add_mod o q.cs
  refine ⟨(mem_unitsTouched_iff ..).2 ⟨by omega, ?_, ?_⟩, block_arith _ _ (j + 1) j hl2 (by omega) (Nat.lt_succ_self j)⟩
  · have := Nat.div_le_div_right (c := q.cs) h0
    omega
  · rw [Nat.le_div_iff_mul_le hcs, Nat.add_mul]
    have : o / q.cs * q.cs = q.cs * (o / q.cs) := Nat.mul_comm _ _
    omega

theorem qcow2_step_congr (q : QCow2) (g : Geom q) (f' d' : File) (offset length : Nat)
    (H : ∀ c ∈ unitsTouched q.cs offset length, ∀ l2o, qcow2L2 q c = some l2o →
      q.l2Entry l2o (c % q.l2Size) = (qWith q f' d').l2Entry l2o (c % q.l2Size))
    (o l : Nat) (h0 : offset ≤ o) (he : o + l = offset + length) (hl : 0 < l) :
    q.step o l = (qWith q f' d').step o l := by
  unfold QCow2.step
  have e2 : (qWith q f' d').l2Bits = q.l2Bits := rfl
  have e4 : (qWith q f' d').cs = q.cs := rfl
  have e5 : (qWith q f' d').l2Size = q.l2Size := rfl
  have e6 : (qWith q f' d').scBits = q.scBits := rfl
  have e7 : (qWith q f' d').scPer = q.scPer := rfl
  have e8 : (qWith q f' d').subclusterType = q.subclusterType := rfl
  simp only [e2, e4, e5, e6, e7, e8]
  refine bind_congr_ok fun l1 hl1 => ?_
  by_cases hidx : o / 2 ^ (q.l2Bits + q.clusterBits) ≥ l1.size
  · rw [if_pos hidx, if_pos hidx]
  rw [if_neg hidx, if_neg hidx]
  refine bind_congr_ok fun l1e hl1e => ?_
  replace hl1e : l1[o / q.cs / q.l2Size]? = some l1e := by
    rw [← l1Index_eq q g]
    cases hx : l1[o / 2 ^ (q.l2Bits + q.clusterBits)]? with
    | none => rw [hx] at hl1e; cases hl1e
    | some x => rw [hx] at hl1e; cases hl1e; rfl
  by_cases hz : l1e &&& L1E_OFFSET_MASK = 0
  · rw [if_pos hz, if_pos hz]
  rw [if_neg hz, if_neg hz]
  have hl2o : ∀ j, j < (q.bn o l + (q.cs - 1)) / q.cs →
      q.l2Entry (l1e &&& L1E_OFFSET_MASK) (o / q.cs % q.l2Size + j)
        = (qWith q f' d').l2Entry (l1e &&& L1E_OFFSET_MASK) (o / q.cs % q.l2Size + j) := by
    intro j hj
    obtain ⟨hm, hd, hmod⟩ := qcow2_ahead q g offset length o l j h0 he hl hj
    have := H _ hm _ (qcow2L2_of q l1 _ l1e hl1 (by rw [hd]; exact hl1e) hz)
    rwa [hmod] at this
  have hk : 0 < (q.bn o l + (q.cs - 1)) / q.cs := by
    obtain ⟨hb1, _, _⟩ := bn_bounds q g o l hl
    exact Nat.div_pos (by have := cs_pos q; omega) (cs_pos q)
  have hfirst := hl2o 0 hk
  rw [Nat.add_zero] at hfirst
  rw [← hfirst]
  refine bind_congr_ok fun eb _ => bind_congr_ok fun t _ => ?_
  have hbn : min (l + o % q.cs) ((q.l2Size - o / q.cs % q.l2Size) * q.cs) = q.bn o l := rfl
  simp only [hbn]
  rw [← qcow2_countLoop_congr q f' d' _ _ _ _ 0 _ fun j _ hj => hl2o j (by omega)]

theorem qcow2_yieldRuns_congr (q : QCow2) (g : Geom q) (f' d' : File) (offset length : Nat)
    (H : ∀ c ∈ unitsTouched q.cs offset length, ∀ l2o, qcow2L2 q c = some l2o →
      q.l2Entry l2o (c % q.l2Size) = (qWith q f' d').l2Entry l2o (c % q.l2Size)) :
    ∀ fuel o l, offset ≤ o → o + l = offset + length →
      q.yieldRuns fuel o l = (qWith q f' d').yieldRuns fuel o l := by
  intro fuel
  induction fuel with
  | zero => intro o l _ _; rfl
  | succ fuel ih =>
    intro o l h0 he
    rw [yieldRuns_succ, yieldRuns_succ]
    by_cases hl : l = 0
    · rw [if_pos hl, if_pos hl]
    rw [if_neg hl, if_neg hl, ← qcow2_step_congr q g f' d' offset length H o l h0 he (by omega)]
    refine bind_congr_ok fun nr hst => ?_
    obtain ⟨n, run⟩ := nr
    by_cases hn : n = 0
    · exact (if_pos hn).trans (if_pos hn).symm
    obtain ⟨hn1, hn2, _, _⟩ := step_progress q g o l n run (by omega) hst
    exact (if_neg hn).trans (((congrArg (· >>= _) (ih (o + n) (l - n) (by omega) (by omega)))).trans (if_neg hn).symm)

theorem subclusterType_class (q : QCow2) (e bm s : Nat) :
    (q.subclusterType e bm s = .ok SC_NORMAL → q.clusterType e = .normal) ∧
      (q.subclusterType e bm s = .ok SC_COMPRESSED → q.clusterType e = .compressed) := by
  -- a finite check: for each of the five cluster types the definition is a tree of `if`s whose leaves are constant
  -- sub-cluster types; `SC_NORMAL` is a leaf only under `.normal`, `SC_COMPRESSED` only under `.compressed`
  unfold QCow2.subclusterType
  constructor <;> intro h <;> cases hct : q.clusterType e <;> simp only [hct] at h <;>
    first | rfl | (exfalso; revert h; (repeat' split) <;> (intro h; first | cases h | simp at h))

/-- what one run of `_read` looks at lies inside the footprints `M` (image file) and `D` (data file) -/
def RunWithin (q : QCow2) (M D : Ranges) (r : Run) : Prop :=
  (r.type = SC_NORMAL → Within D r.hostOffset r.count) ∧
  (r.type = SC_COMPRESSED → Within M (qcow2Comp q r.hostOffset).1 (qcow2Comp q r.hostOffset).2)

theorem qcow2_data_covers (q : QCow2) (offset length G l2o e bm : Nat) (h1 : offset ≤ G) (h2 : G < offset + length)
    (hL2 : qcow2L2 q (G / q.cs) = some l2o) (hE : q.l2Entry l2o (G / q.cs % q.l2Size) = .ok (e, bm))
    (hct : q.clusterType e = .normal) : Covers (qcow2Data q offset length) ((e &&& L2E_OFFSET_MASK) + G % q.cs) := by
  obtain ⟨hc1, hc2⟩ := partIn_contains q.cs offset length G (cs_pos q) h1 h2
  refine Covers.unit (mem_unitsTouched _ _ _ _ h1 h2)
    ⟨((e &&& L2E_OFFSET_MASK) + (partIn q.cs offset length (G / q.cs)).1, (partIn q.cs offset length (G / q.cs)).2), ?_, ?_⟩
  · simp only [qcow2DataUnit, hL2, hE, hct, if_true, List.mem_singleton]
  · dsimp only
    omega

theorem qcow2_step_within (q : QCow2) (g : Geom q) (offset length : Nat)
    (o l n : Nat) (run : Run) (h0 : offset ≤ o) (he : o + l = offset + length) (hl : 0 < l)
    (hst : q.step o l = .ok (n, run)) : RunWithin q (qcow2Meta q offset length) (qcow2Data q offset length) run := by
  have hcs := cs_pos q
  obtain ⟨hb1, hb2, hb3⟩ := bn_bounds q g o l hl
  cases step_info q g o l n run hl hst with
  | unalloc l1 hl1 hidx hrun hn =>
    subst hrun
    refine And.intro (fun h => ?_) (fun h => ?_) <;> dsimp only at h <;> exact absurd h (by decide)
  | mapped l1 l1e e bm t cnt hl1 m hT hrun hcnt hcomp hn =>
    obtain ⟨hl1e, hl2, hE, hgood⟩ := m
    subst hrun
    have hl1e' : l1[o / q.cs / q.l2Size]? = some l1e := by rw [← l1Index_eq q g]; exact hl1e
    constructor
    · -- a normal run: host clusters are contiguous, each one is the cluster of a guest cluster the request touches
      intro ht p hp1 hp2
      dsimp only at ht hp1 hp2
      subst ht
      rw [if_neg (by decide), if_pos (by decide)] at hp1 hp2
      obtain ⟨x, rfl⟩ : ∃ x, p = (e &&& L2E_OFFSET_MASK) + o % q.cs + x := ⟨p - ((e &&& L2E_OFFSET_MASK) + o % q.cs), by omega⟩
      have hy1 : o % q.cs + x < q.bn o l := by omega
      have hy2 : o % q.cs + x < (cnt + o / 2 ^ q.scBits % q.scPer) * 2 ^ q.scBits := by omega
      obtain ⟨a1, a2, a3, a4, a5, _, a7⟩ := cluster_arith q g o x (by omega)
      obtain ⟨e', bm', hE', hT', hoff⟩ := MappedRun.good_at g ⟨hl1e, hl2, hE, hgood⟩ x hy2
      rw [a7] at hE' hoff
      have hoff' := hoff (Or.inl rfl)
      have hL2 : qcow2L2 q ((o + x) / q.cs) = some (l1e &&& L1E_OFFSET_MASK) := by
        apply qcow2L2_of q l1 _ l1e hl1 _ hl2
        rw [a1, g.l2, a4]; exact hl1e
      have hidx : (o + x) / q.cs % q.l2Size = o / q.cs % q.l2Size + (o % q.cs + x) / q.cs := by
        rw [← g.l2] at a5
        rw [a1, a5]
      have hcov := qcow2_data_covers q offset length (o + x) _ e' bm' (by omega) (by omega) hL2 (by rw [hidx]; exact hE')
        ((subclusterType_class q e' bm' _).1 hT')
      have hdm := Nat.div_add_mod (o % q.cs + x) q.cs
      have hmc : q.cs * ((o % q.cs + x) / q.cs) = (o % q.cs + x) / q.cs * q.cs := Nat.mul_comm _ _
      rw [hoff', a2] at hcov
      rwa [show (e &&& L2E_OFFSET_MASK) + o % q.cs + x
        = (e &&& L2E_OFFSET_MASK) + (o % q.cs + x) / q.cs * q.cs + (o % q.cs + x) % q.cs by omega]
    · -- a compressed run: the descriptor of the cluster of `o`
      intro ht
      dsimp only at ht ⊢
      subst ht
      rw [if_pos rfl]
      refine Within.unit (mem_unitsTouched _ _ _ _ h0 (by omega)) (Within.of_mem ?_)
      simp only [qcow2MetaUnit, qcow2L2_of q l1 _ l1e hl1 hl1e' hl2, hE, (subclusterType_class q e bm _).2 hT, if_true,
        List.mem_append, List.mem_singleton, or_true]

theorem qcow2_runs_within (q : QCow2) (g : Geom q) (offset length : Nat) (runs : List Run)
    (h : q.yieldRuns length offset length = .ok runs) :
    ∀ r ∈ runs, RunWithin q (qcow2Meta q offset length) (qcow2Data q offset length) r := by
  refine yieldRuns_induct q g (P := fun o l res => offset ≤ o → o + l = offset + length → ∀ runs, res = .ok runs →
    ∀ r ∈ runs, RunWithin q (qcow2Meta q offset length) (qcow2Data q offset length) r) ?_ ?_ ?_
    length offset length (Nat.le_refl _) (Nat.le_refl _) rfl runs h
  · intro _ _ _ runs h
    cases h
    exact nofun
  · intro _ _ _ _ _ _ _ runs h
    cases h
  · intro o l n run res hl hst _ hn _ _ ih h0 he runs h
    obtain ⟨rest, hres, h⟩ := bind_ok h
    cases h
    intro r hr
    rcases List.mem_cons.1 hr with rfl | hr
    · exact qcow2_step_within q g offset length o l n _ h0 he hl hst
    · exact ih (by omega) (by omega) rest hres r hr

theorem qcow2_execRuns_congr (q : QCow2) (f' d' : File) (hs : q.fh.size = f'.size) (hds : q.dataFile.size = d'.size) :
    ∀ runs, (∀ r ∈ runs, (r.type = SC_NORMAL → EqOn r.hostOffset r.count q.dataFile d') ∧
        (r.type = SC_COMPRESSED → EqOn (qcow2Comp q r.hostOffset).1 (qcow2Comp q r.hostOffset).2 q.fh f')) →
      q.execRuns runs = (qWith q f' d').execRuns runs := by
  intro runs
  induction runs with
  | nil => intro _; rfl
  | cons r rest ih =>
    intro h
    unfold QCow2.execRuns
    have hd : q.runData r = (qWith q f' d').runData r := by
      obtain ⟨hn, hc⟩ := h r (List.mem_cons_self ..)
      unfold QCow2.runData
      refine ite_congr rfl (fun _ => rfl) fun _ => ite_congr rfl (fun _ => rfl) fun _ =>
        ite_congr rfl (fun hcomp => ?_) fun _ => ite_congr rfl (fun hnorm => ?_) fun _ => rfl
      · have hrd := File.read_congr hs (hc hcomp)
        unfold qcow2Comp at hrd
        unfold QCow2.readCompressed
        dsimp only at hrd ⊢
        rw [hrd]
        rfl
      · exact congrArg _ (File.read_congr hds (hn hnorm))
    rw [hd, ih (fun r' hr' => h r' (List.mem_cons_of_mem _ hr'))]

/-- the look-ahead of `count_contiguous_subclusters` stays inside the clusters the request touches (`qcow2_ahead`).
    Arbitrary table contents; standard and extended L2 entries; the header geometry is the one `open` accepts. -/
theorem qcow2_read_footprint (q : QCow2) (hh : HdrOK q) (f' d' : File) (offset length : Nat)
    (hm : AgreeOn (qcow2Meta q offset length) q.fh f') (hd : AgreeOn (qcow2Data q offset length) q.dataFile d') :
    q.read offset length = (qWith q f' d').read offset length := by
  have g := geom q hh
  unfold QCow2.read
  have H : ∀ c ∈ unitsTouched q.cs offset length, ∀ l2o, qcow2L2 q c = some l2o →
      q.l2Entry l2o (c % q.l2Size) = (qWith q f' d').l2Entry l2o (c % q.l2Size) := by
    intro c hc l2o hl2
    have hu : Agree (qcow2MetaUnit q c) q.fh f' := hm.agree.unit hc
    unfold qcow2MetaUnit at hu
    rw [hl2] at hu
    exact qcow2_l2Entry_congr q f' d' _ _ hm.size hu.left
  rw [← qcow2_yieldRuns_congr q g f' d' offset length H length offset length (Nat.le_refl _) rfl]
  refine bind_congr_ok fun runs hr => qcow2_execRuns_congr q f' d' hm.size hd.size runs fun r hrm => ?_
  obtain ⟨hn, hc⟩ := qcow2_runs_within q g offset length runs hr r hrm
  exact ⟨fun h => hd.agree.within (hn h), fun h => hm.agree.within (hc h)⟩

theorem qcow2Words_total (q : QCow2) (l2o idx : Nat) : total (qcow2Words q l2o idx) ≤ 16 := by
  unfold qcow2Words
  split
  · simp [total]
  · split
    · simp [total]
    · split
      · split <;> simp [total]
      · simp [total]

theorem qcow2Comp_le (q : QCow2) (desc : Nat) : (qcow2Comp q desc).2 ≤ 2 ^ (q.clusterBits - 8) * 512 := by
  unfold qcow2Comp
  simp only
  have h1 : (desc >>> q.csizeShift) &&& q.csizeMask ≤ q.csizeMask := Nat.and_le_right
  have h2 : q.csizeMask + 1 = 2 ^ (q.clusterBits - 8) := by
    unfold QCow2.csizeMask
    have := Nat.two_pow_pos (q.clusterBits - 8)
    omega
  have h3 : ((desc >>> q.csizeShift) &&& q.csizeMask) + 1 ≤ 2 ^ (q.clusterBits - 8) := by omega
  have h4 := Nat.mul_le_mul_right QCOW2_COMPRESSED_SECTOR_SIZE h3
  have h5 : QCOW2_COMPRESSED_SECTOR_SIZE = 512 := rfl
  rw [h5] at h4 ⊢
  exact Nat.le_trans (Nat.sub_le _ _) h4

theorem qcow2MetaUnit_total (q : QCow2) (c : Nat) :
    total (qcow2MetaUnit q c) ≤ 16 + 2 ^ (q.clusterBits - 8) * 512 := by
  unfold qcow2MetaUnit
  split
  · simp [total]
  · rename_i l2o' _
    rw [total_append]
    have h1 := qcow2Words_total q l2o' (c % q.l2Size)
    have h2 : ∀ l2o, total (match q.l2Entry l2o (c % q.l2Size) with
        | .ok (e, _) => if q.clusterType e = .compressed then [qcow2Comp q (e &&& L2E_COMPRESSED_OFFSET_SIZE_MASK)] else []
        | .error _ => []) ≤ 2 ^ (q.clusterBits - 8) * 512 := by
      intro l2o
      split
      · split
        · rw [total_cons, total_nil]; exact qcow2Comp_le q _
        · simp [total]
      · simp [total]
    have h3 := h2 l2o'
    generalize total (qcow2Words q l2o' (c % q.l2Size)) = A at h1 ⊢
    generalize total (match q.l2Entry l2o' (c % q.l2Size) with
        | .ok (e, _) => if q.clusterType e = .compressed then [qcow2Comp q (e &&& L2E_COMPRESSED_OFFSET_SIZE_MASK)] else []
        | .error _ => []) = B at h3 ⊢
    omega

theorem qcow2DataUnit_total (q : QCow2) (offset length c : Nat) :
    total (qcow2DataUnit q offset length c) ≤ (partIn q.cs offset length c).2 := by
  unfold qcow2DataUnit
  split
  · simp [total]
  · split
    · split <;> simp [total]
    · simp [total]

theorem qcow2DataUnit_inside (q : QCow2) (offset length c : Nat) (hlo : offset / q.cs ≤ c)
    (r : Nat × Nat) (hrc : r ∈ qcow2DataUnit q offset length c) :
    ∃ l2o e bm, qcow2L2 q c = some l2o ∧ q.l2Entry l2o (c % q.l2Size) = .ok (e, bm) ∧ q.clusterType e = .normal ∧
      (e &&& L2E_OFFSET_MASK) ≤ r.1 ∧ r.1 + r.2 ≤ (e &&& L2E_OFFSET_MASK) + q.cs := by
  unfold qcow2DataUnit at hrc
  cases hl2 : qcow2L2 q c with
  | none => simp [hl2] at hrc
  | some l2o =>
    simp only [hl2] at hrc
    cases hE : q.l2Entry l2o (c % q.l2Size) with
    | error e => simp [hE] at hrc
    | ok eb =>
      obtain ⟨e, bm⟩ := eb
      simp only [hE] at hrc
      by_cases hct : q.clusterType e = .normal
      · simp only [hct, if_true, List.mem_singleton] at hrc
        have hin := partIn_inside q.cs offset length c (cs_pos q) hlo
        generalize partIn q.cs offset length c = pp at *
        subst hrc
        exact ⟨l2o, e, bm, rfl, hE, hct, by simp only; omega, by simp only; omega⟩
      · simp [hct] at hrc

theorem qcow2MetaUnit_inside (q : QCow2) (c : Nat) (r : Nat × Nat) (hrc : r ∈ qcow2MetaUnit q c) :
    ∃ l2o, qcow2L2 q c = some l2o ∧
      ((l2o ≤ r.1 ∧ r.1 + r.2 ≤ l2o + 8 * (q.l2Size * (q.l2EntrySize / 8))) ∨
        ∃ e bm, q.l2Entry l2o (c % q.l2Size) = .ok (e, bm) ∧ q.clusterType e = .compressed ∧
          r = qcow2Comp q (e &&& L2E_COMPRESSED_OFFSET_SIZE_MASK)) := by
  unfold qcow2MetaUnit at hrc
  cases hl2 : qcow2L2 q c with
  | none => simp [hl2] at hrc
  | some l2o =>
    simp only [hl2, List.mem_append] at hrc
    refine ⟨l2o, rfl, ?_⟩
    rcases hrc with hw | hcmp
    · left
      unfold qcow2Words at hw
      by_cases h1 : l2o + 8 * (q.l2Size * (q.l2EntrySize / 8)) > q.fh.size
      · simp [h1] at hw
      · simp only [h1, if_false] at hw
        by_cases h2 : c % q.l2Size * q.l2EntrySize / 8 ≥ q.l2Size * (q.l2EntrySize / 8)
        · simp [h2] at hw
        · simp only [h2, if_false, List.mem_cons] at hw
          rcases hw with hw | hw
          · subst hw; simp only; omega
          · by_cases hs : q.sub = true
            · simp only [hs, if_true] at hw
              by_cases h3 : c % q.l2Size * q.l2EntrySize / 8 + 1 ≥ q.l2Size * (q.l2EntrySize / 8)
              · simp [h3] at hw
              · simp only [h3, if_false, List.mem_singleton] at hw
                subst hw; simp only; omega
            · simp [hs] at hw
    · right
      cases hE : q.l2Entry l2o (c % q.l2Size) with
      | error e => simp [hE] at hcmp
      | ok eb =>
        obtain ⟨e, bm⟩ := eb
        simp only [hE] at hcmp
        by_cases hct : q.clusterType e = .compressed
        · simp only [hct, if_true, List.mem_singleton] at hcmp
          exact ⟨e, bm, rfl, hct, hcmp⟩
        · simp [hct] at hcmp

end qcow2

/-! objects for the non-vacuity examples of `HvProps/C13.lean`: 512-byte clusters, the L2 table at 2^40, guest cluster 1
    mapped to the host cluster at 2^41 (entry bytes 00 00 02 00 00 00 00 00) -/
def exQFile (g : Nat → UInt8) : File :=
  ⟨2 ^ 42, fun p => if p = 2 ^ 40 + 10 then 2 else if 2 ^ 40 + 8 ≤ p ∧ p < 2 ^ 40 + 16 then 0
    else if 2 ^ 41 ≤ p ∧ p < 2 ^ 41 + 512 then UInt8.ofNat p else g p⟩
def exQ : QCow2 :=
  { fh := exQFile (fun p => UInt8.ofNat p), dataFile := exQFile (fun p => UInt8.ofNat p), hasDataFile := false, backing := none,
    version := 3, clusterBits := 9, size := 64 * 512, l1Size := 1, l1Offset := 2 ^ 39, sub := false, compressionType := 0,
    l1 := .ok #[2 ^ 40], inflate := fun _ _ => .error .other, backingName := none, exts := [], nbSnapshots := 0,
    snapshotsOffset := 0 }

theorem exQ_footprint : qcow2Meta exQ 517 10 = [(2 ^ 40 + 8, 8)] ∧ qcow2Data exQ 517 10 = [(2 ^ 41 + 5, 10)] := by decide

/-- on the ranges of the footprints of `exQ.read 517 10` the example files do not depend on `g` -/
theorem exQFile_byte (g g' : Nat → UInt8) (p : Nat)
    (hp : (2 ^ 40 + 8 ≤ p ∧ p < 2 ^ 40 + 8 + 8) ∨ (2 ^ 41 + 5 ≤ p ∧ p < 2 ^ 41 + 5 + 10)) :
    (exQFile g).byte p = (exQFile g').byte p := by
  refine ite_else_congr fun _ => ite_else_congr fun _ => ite_else_congr fun _ => ?_
  omega

end Hv.Footprint
