/- The Parallels snapshot-chain walk terminates (pigeonhole over the shot list). -/
import Hv.Hdd
namespace Hv.Hdd
open Hv

theorem findShot_mem {shots : List (Nat × Nat)} {g : Nat} {s : Nat × Nat} (h : findShot shots g = some s) :
    s.1 = g ∧ s.1 ∈ shots.map (·.1) := by
  unfold findShot at h
  have h1 := List.find?_some h
  have h2 := List.mem_of_find?_eq_some h
  simp only [decide_eq_true_eq] at h1
  exact ⟨h1, List.mem_map.mpr ⟨s, h2, rfl⟩⟩

/-- the walk keeps a duplicate-free chain of GUIDs that all name shots; with `fuel + |chain| > |shots|` it cannot run dry -/
theorem chainLoop_progress (shots : List (Nat × Nat)) (null : Nat) :
    ∀ (fuel : Nat) (shot : Nat × Nat) (chain : List Nat),
      chain.Nodup → (∀ x ∈ chain, x ∈ shots.map (·.1)) → shots.length + 1 ≤ fuel + chain.length →
      chainLoop shots null fuel shot chain ≠ .error .nonTermination := by
  intro fuel
  induction fuel with
  | zero =>
    intro shot chain hnd hsub hlen
    have := List.Nodup.length_le_of_subset hnd hsub
    simp only [List.length_map] at this
    omega
  | succ fuel ih =>
    intro shot chain hnd hsub hlen
    unfold chainLoop
    split
    · intro h; cases h
    · split
      · intro h; cases h
      · rename_i p hp
        split
        · intro h; cases h
        · rename_i hnc
          have hp' := findShot_mem hp
          apply ih
          · exact List.nodup_cons.mpr ⟨by simpa using hnc, hnd⟩
          · intro x hx
            rcases List.mem_cons.mp hx with rfl | hx
            · exact hp'.2
            · exact hsub x hx
          · simp only [List.length_cons]; omega

theorem snapshotChain_progress (shots : List (Nat × Nat)) (null guid : Nat) :
    snapshotChain shots null guid ≠ .error .nonTermination := by
  unfold snapshotChain
  split
  · intro h; cases h
  · rename_i s hs
    have hs' := findShot_mem hs
    apply chainLoop_progress
    · simp
    · intro x hx; simp only [List.mem_singleton] at hx; subst hx; exact hs'.2
    · simp

end Hv.Hdd
