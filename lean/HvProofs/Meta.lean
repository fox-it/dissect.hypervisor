/-
  Lemmas about the metadata layer (C14): the padding mask, the QCOW2 header extension walk on an encoded extension area,
  the variable part of a snapshot entry, the VHDX locator dictionary, descriptor lines.
-/
import Hv.Meta
import HvProofs.Basic
import HvProofs.Lists
import HvProofs.Wide
namespace Hv.Meta
open Hv

/-- `x & 0xFFFFFFF8` in `_read_extensions`: on 32-bit values it clears the low three bits -/
theorem and_mask8 (x : Nat) (h : x < 2 ^ 32) : x &&& 4294967288 = x / 8 * 8 := by
  have hm : (4294967288 : Nat) = (2 ^ 29 - 1) <<< 3 := by decide
  rw [hm, Wide.and_mask_shiftLeft, Nat.shiftRight_eq_div_pow, Nat.shiftLeft_eq, Nat.mod_eq_of_lt (by omega)]

section exts
open Hv.Qcow2 Hv.Extracted.qcow2

/-- one extension as the format stores it: type, length (both 32-bit big endian), payload, zero padding to the
    next multiple of 8 -/
def encodeExt (e : Ext) : Bytes :=
  beBytes 4 e.magic ++ beBytes 4 e.len ++ e.data ++ zeros (align8 e.len - e.len)

/-- the extension area: the extensions back to back, then the end marker (type 0, length 0) -/
def encodeExts : List Ext → Bytes
  | [] => zeros 8
  | e :: es => encodeExt e ++ encodeExts es

/-- what the format allows for one extension: a non-zero 32-bit type, a 32-bit length that is the payload's length;
    the two fixed-layout payloads the reader parses as structures have at least the structure's size -/
def ExtOK (e : Ext) : Prop :=
  e.magic ≠ QCOW2_EXT_MAGIC_END ∧ e.magic < 2 ^ 32 ∧ e.len = e.data.length ∧ e.len < 2 ^ 32 ∧
  (e.magic = QCOW2_EXT_MAGIC_CRYPTO_HEADER → 16 ≤ e.len) ∧ (e.magic = QCOW2_EXT_MAGIC_BITMAPS → 24 ≤ e.len)

theorem align8_ge (n : Nat) : n ≤ align8 n := by unfold align8; omega
theorem align8_mod (n : Nat) : align8 n % 8 = 0 := by unfold align8; omega
theorem align8_lt (n : Nat) : align8 n < n + 8 := by unfold align8; omega


theorem encodeExt_length (e : Ext) (h : e.len = e.data.length) : (encodeExt e).length = 8 + align8 e.len := by
  have := align8_ge e.len
  simp only [encodeExt, List.length_append, beBytes_length, zeros_length, ← h]
  omega

-- the two literal fields are `QCowExtension.magic` and `QCowExtension.len`: the user's `simp only [QCowExtension.magic, …]`
-- turns the model's fields into these literals before it rewrites with the result
theorem ext_encoded (fh : File) (start : Nat) (e : Ext) (hm : e.magic < 2 ^ 32) (hl : e.len < 2 ^ 32)
    (hlen : e.len = e.data.length) (hs : slice fh.byte start (encodeExt e).length = encodeExt e)
    (hsz : start + 8 + e.len ≤ fh.size) :
    fh.field start 8 ⟨0, 4, true, 0, 32⟩ = .ok e.magic ∧ fh.field start 8 ⟨4, 4, true, 0, 32⟩ = .ok e.len ∧
      fh.read (start + 8) e.len = e.data := by
  obtain ⟨hs, -⟩ := slice_split hs
  obtain ⟨hs, hdata⟩ := slice_split hs
  obtain ⟨hmag, hlenb⟩ := slice_split hs
  simp only [List.length_append, beBytes_length] at hmag hlenb hdata
  refine ⟨field_be fh start 8 0 4 32 _ (by decide) hm (by omega) hmag,
    field_be fh start 8 4 4 32 _ (by decide) hl (by omega) hlenb, ?_⟩
  rw [File.read_eq_slice hsz, hlen, hdata]

theorem readExtensions_encoded (fh : File) (endOff : Nat) : ∀ (es : List Ext) (fuel start : Nat) (acc : List Ext),
    (∀ e ∈ es, ExtOK e) → es.length + 1 ≤ fuel →
    slice fh.byte start (encodeExts es).length = encodeExts es →
    start + (encodeExts es).length ≤ endOff → endOff ≤ fh.size →
    readExtensions fh endOff fuel start acc = .ok (acc.reverse ++ es) := by
  intro es
  induction es with
  | nil =>
    intro fuel start acc _ hf hs he hsz
    obtain ⟨fuel, rfl⟩ : ∃ k, fuel = k + 1 := ⟨fuel - 1, by simp at hf; omega⟩
    -- the end marker is an extension of type 0 and length 0
    obtain ⟨hm, hl, -⟩ := ext_encoded fh start ⟨0, 0, []⟩ (by decide) (by decide) rfl hs
      (by simp only [encodeExts, zeros_length] at he; show start + 8 + 0 ≤ fh.size; omega)
    unfold readExtensions
    simp only [QCowExtension.size, QCowExtension.magic, QCowExtension.len, hm, hl, QCOW2_EXT_MAGIC_END]
    have : start < endOff := by simp only [encodeExts, zeros_length] at he; omega
    simp [this, bind, Except.bind]
  | cons e es ih =>
    intro fuel start acc hok hf hs he hsz
    obtain ⟨fuel, rfl⟩ : ∃ k, fuel = k + 1 := ⟨fuel - 1, by simp at hf; omega⟩
    obtain ⟨hm0, hm32, hlen, hl32, hcr, hbm⟩ := hok e (by simp)
    have hage := align8_ge e.len
    have hel := encodeExt_length e hlen
    obtain ⟨hse, hsr⟩ := slice_split (a := encodeExt e) hs
    simp only [encodeExts, List.length_append, hel] at he
    rw [hel] at hsr
    obtain ⟨a1, a2, a3, a4, a5⟩ : start < endOff ∧ ¬ (start + 8 > endOff ∨ e.len > endOff - (start + 8)) ∧
        start + 8 + e.len ≤ fh.size ∧ start + 8 + align8 e.len + (encodeExts es).length ≤ endOff ∧ es.length + 1 ≤ fuel := by
      simp only [List.length_cons] at hf
      omega
    obtain ⟨hm, hl, hrd⟩ := ext_encoded fh start e hm32 hl32 hlen hse a3
    have hrec := ih fuel (start + 8 + align8 e.len) (e :: acc) (fun x hx => hok x (by simp [hx])) a5
      (by rw [Nat.add_assoc]; exact hsr) a4 hsz
    have hneed : (if e.magic = QCOW2_EXT_MAGIC_CRYPTO_HEADER then 16 else if e.magic = QCOW2_EXT_MAGIC_BITMAPS then 24 else 0)
        ≤ e.len := by
      split
      · exact hcr ‹_›
      · split
        · exact hbm ‹_›
        · exact Nat.zero_le _
    unfold readExtensions
    simp only [QCowExtension.size, QCowExtension.magic, QCowExtension.len, hm, hl]
    have h4 : (e.len + 7) / 8 * 8 = align8 e.len := rfl
    rw [if_pos a1]
    simp only [bind, Except.bind, a2, if_false, hm0, hrd, h4]
    rw [if_neg (fun h => by have := h.2; omega), hrec]
    simp

theorem encodeExts_length_ge (es : List Ext) (h : ∀ e ∈ es, e.len = e.data.length) :
    8 * (es.length + 1) ≤ (encodeExts es).length := by
  induction es with
  | nil => simp [encodeExts]
  | cons e es ih =>
    have := ih (fun x hx => h x (by simp [hx]))
    have hl := encodeExt_length e (h e (by simp))
    simp only [encodeExts, List.length_append, List.length_cons, hl]
    omega
end exts

section snaps
open Hv.Extracted.qcow2

/-- offset of the entry after the entries `ss` of a table that starts at `off` -/
def snapOffset (off : Nat) : List SnapFull → Nat
  | [] => off
  | s :: ss => snapOffset (off + align8 s.entrySize) ss

theorem snapOffset_append (off : Nat) (a b : List SnapFull) : snapOffset off (a ++ b) = snapOffset (snapOffset off a) b := by
  induction a generalizing off with
  | nil => rfl
  | cons x xs ih => simp [snapOffset, ih]

/-- the variable part of an entry inside the file, with the stored sizes `x`, `i`, `n`: the known extra fields are the first
    `min x 24` bytes (zero padded), the unknown extra data the bytes after them, then the id (`i` bytes) and the name (`n`
    bytes); nothing else is consumed. -/
theorem snapTail_layout (fh : File) (p x i n : Nat) (hfit : p + x + i + n ≤ fh.size) :
    snapTail fh p x i n =
      (slice fh.byte p (min x 24) ++ zeros (24 - min x 24),
       (if x > 24 then some (slice fh.byte (p + 24) (x - 24)) else none),
       slice fh.byte (p + x) i, slice fh.byte (p + x + i) n, p + x + i + n) := by
  have hx : QCowSnapshotExtraData.size = 24 := rfl
  unfold snapTail
  simp only [hx]
  rw [File.read_eq_slice (by omega)]
  simp only [slice_length]
  by_cases h : x > 24
  · have hm : min x 24 = 24 := by omega
    simp only [h, if_true, hm]
    rw [File.read_eq_slice (by omega)]
    simp only [slice_length]
    have e1 : p + 24 + (x - 24) = p + x := by omega
    rw [e1, File.read_eq_slice (by omega)]
    simp only [slice_length]
    rw [File.read_eq_slice (by omega)]
    simp
  · have hm : min x 24 = x := by omega
    simp only [h, if_false, hm, Nat.add_zero]
    rw [File.read_eq_slice (by omega)]
    simp only [slice_length]
    rw [File.read_eq_slice (by omega)]
    simp


/-- a field of the fixed snapshot header at `offset` -/
def snapField (fh : File) (offset : Nat) (fld : Field) : Nat := fld.decode (slice fh.byte (offset + fld.off) fld.width)

end snaps

/-- a file with exactly the given bytes -/
def fileOf (bs : Bytes) : File := ⟨bs.length, fun i => bs.getD i 0⟩

theorem slice_fileOf {bs a b c : Bytes} (h : bs = a ++ b ++ c) : slice (fileOf bs).byte a.length b.length = b := by
  subst h
  exact (drop_take_slice (a ++ b ++ c) _ _ (by simp)).symm.trans (by simp)

theorem bdictSet_fresh (d : List (Bytes × Bytes)) (k v : Bytes) (h : ∀ e ∈ d, e.1 ≠ k) : bdictSet d k v = d ++ [(k, v)] := by
  unfold bdictSet
  have : d.any (fun e => decide (e.1 = k)) = false := by
    simp only [List.any_eq_false, decide_eq_true_eq]
    exact h
  simp [this]

theorem locatorDict_distinct_aux (es : List (Bytes × Bytes)) : ∀ (d : List (Bytes × Bytes)),
    (es.map (·.1)).Nodup → (∀ e ∈ es, ∀ x ∈ d, x.1 ≠ e.1) →
    es.foldl (fun d e => bdictSet d e.1 e.2) d = d ++ es := by
  induction es with
  | nil => intro d _ _; simp
  | cons e es ih =>
    intro d hnd hdis
    simp only [List.map_cons, List.nodup_cons] at hnd
    simp only [List.foldl_cons]
    rw [bdictSet_fresh d e.1 e.2 (fun x hx => hdis e (by simp) x hx)]
    rw [ih _ hnd.2]
    · simp
    · intro e' he' x hx
      simp only [List.mem_append, List.mem_singleton] at hx
      cases hx with
      | inl h => exact hdis e' (by simp [he']) x h
      | inr h =>
        subst h
        intro heq
        exact hnd.1 (by simp only [List.mem_map]; exact ⟨e', he', heq.symm⟩)

/-! Lemmas about `VmdkDesc.partition` / `strip` / `splitOn` and `Meta.kvLine`: they stand here, not with the descriptor
    proofs, because only C14's descriptor theorems (`descriptor_kv_roundtrip`, `descriptor_line_is_kv`) use them. -/
section desc
open Hv.VmdkDesc

theorem span_loop (p : Char → Bool) (x : Char) (b : Str) (hx : p x = false) : ∀ (a acc : Str), (∀ c ∈ a, p c = true) →
    List.span.loop p (a ++ x :: b) acc = (acc.reverse ++ a, x :: b) := by
  intro a
  induction a with
  | nil => intro acc _; simp [List.span.loop, hx]
  | cons y a ih =>
    intro acc h
    simp only [List.cons_append, List.span.loop, h y (by simp)]
    rw [ih (y :: acc) (fun c hc => h c (by simp [hc]))]
    simp

theorem span_ne (sep : Char) (a b : Str) (h : sep ∉ a) : (a ++ sep :: b).span (· ≠ sep) = (a, sep :: b) := by
  unfold List.span
  rw [span_loop _ sep b (by simp) a [] (by intro c hc; simp; intro e; exact h (e ▸ hc))]
  simp

theorem partition_first (sep : Char) (a b : Str) (h : sep ∉ a) : partition sep (a ++ sep :: b) = (a, true, b) := by
  unfold partition
  rw [span_ne sep a b h]

theorem strip_eq_trimBoth (s : Str) : strip s = trimBoth (fun c => Regex.isSpace tables c.toNat) s := rfl
theorem stripChars_eq_trimBoth (chars s : Str) : stripChars chars s = trimBoth (fun c => chars.contains c) s := rfl


/-- `key`, white space, `=`, then `value` between runs of spaces and quotes: the line splits at the first `=` and both
    parts are trimmed back to `key` and `value` -/
theorem kvLine_padded (key kp vp value vq : Str) (hk : '=' ∉ key ++ kp)
    (hkp : ∀ c ∈ kp, Regex.isSpace tables c.toNat = true)
    (hvp : ∀ c ∈ vp, [' ', '"'].contains c = true) (hvq : ∀ c ∈ vq, [' ', '"'].contains c = true)
    (hk1 : ∀ c, key.head? = some c → Regex.isSpace tables c.toNat = false)
    (hk2 : ∀ c, key.getLast? = some c → Regex.isSpace tables c.toNat = false)
    (hv1 : ∀ c, value.head? = some c → c ≠ ' ' ∧ c ≠ '"') (hv2 : ∀ c, value.getLast? = some c → c ≠ ' ' ∧ c ≠ '"') :
    kvLine ((key ++ kp) ++ '=' :: (vp ++ (value ++ vq))) = (key, value) := by
  unfold kvLine
  rw [partition_first '=' _ _ hk]
  simp only
  rw [strip_eq_trimBoth, stripChars_eq_trimBoth]
  have h1 := trimBoth_sandwich (fun c => Regex.isSpace tables c.toNat) [] key kp (by simp) hkp hk1 hk2
  have h2 := trimBoth_sandwich (fun c => [' ', '"'].contains c) vp value vq hvp hvq
    (by intro c hc; have := hv1 c hc; simp [this.1, this.2]) (by intro c hc; have := hv2 c hc; simp [this.1, this.2])
  simp only [List.nil_append] at h1
  rw [h1, h2]

theorem splitOn_no_sep (sep : Char) (s : Str) (h : sep ∉ s) : splitOn sep s = [s] := by
  induction s with
  | nil => rfl
  | cons c cs ih =>
    have hc : c ≠ sep := fun e => h (by simp [e])
    have := ih (fun hm => h (by simp [hm]))
    simp [splitOn, this, hc]

end desc

end Hv.Meta
