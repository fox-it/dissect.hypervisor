/-
  The format-independent part of the footprint theorems (C13, I/O clause): agreement of two files on ranges, a request cut
  into allocation units (`unitsTouched`, `partIn`, the loop state `At`), size and placement of a footprint over the units.
-/
import Hv.Footprint
import HvProofs.BlockLoop
namespace Hv.Footprint
open Hv

/-- the two files have the same byte at every position of `[a, a + n)` -/
def EqOn (a n : Nat) (f f' : File) : Prop := ∀ p, a ≤ p → p < a + n → f.byte p = f'.byte p

/-- pointwise agreement on all ranges of a list: `AgreeOn` without the sizes -/
def Agree (rs : Ranges) (f f' : File) : Prop := ∀ r ∈ rs, EqOn r.1 r.2 f f'

theorem Covers.unit {α : Type} {l : List α} {g : α → Ranges} {i : α} (hi : i ∈ l) {p : Nat} (hp : Covers (g i) p) :
    Covers (l.flatMap g) p := by
  obtain ⟨r, hr, h⟩ := hp
  exact ⟨r, List.mem_flatMap.2 ⟨i, hi, hr⟩, h⟩

/-- the range `[a, a + n)` lies inside the footprint -/
def Within (rs : Ranges) (a n : Nat) : Prop := ∀ p, a ≤ p → p < a + n → Covers rs p

theorem Within.of_mem {rs : Ranges} {a n : Nat} (h : (a, n) ∈ rs) : Within rs a n := fun _ h1 h2 => ⟨_, h, h1, h2⟩

theorem Within.unit {l : List Nat} {g : Nat → Ranges} {i a n : Nat} (hi : i ∈ l) (h : Within (g i) a n) :
    Within (l.flatMap g) a n := fun p h1 h2 => (h p h1 h2).unit hi

theorem Within.append {rs : Ranges} {a n m : Nat} (h1 : Within rs a n) (h2 : Within rs (a + n) m) : Within rs a (n + m) :=
  fun p hp1 hp2 => if hp : p < a + n then h1 p hp1 hp else h2 p (by omega) (by omega)

theorem AgreeOn.size {rs : Ranges} {f f' : File} (h : AgreeOn rs f f') : f.size = f'.size := h.1
theorem AgreeOn.agree {rs : Ranges} {f f' : File} (h : AgreeOn rs f f') : Agree rs f f' := h.2

theorem AgreeOn.mono {rs rs' : Ranges} {f f' : File} (h : AgreeOn rs f f') (hsub : ∀ r ∈ rs', r ∈ rs) :
    AgreeOn rs' f f' :=
  ⟨h.1, fun r hr => h.2 r (hsub r hr)⟩

theorem AgreeOn.symm {rs : Ranges} {f f' : File} (h : AgreeOn rs f f') : AgreeOn rs f' f :=
  ⟨h.1.symm, fun r hr p h1 h2 => (h.2 r hr p h1 h2).symm⟩

section
variable {f f' : File} {a n : Nat} {r : Nat × Nat} {rs rs' : Ranges}

theorem EqOn.sub (h : EqOn a n f f') {b m : Nat} (h1 : a ≤ b) (h2 : b + m ≤ a + n) : EqOn b m f f' :=
  fun p hp1 hp2 => h p (by omega) (by omega)

theorem EqOn.slice (h : EqOn a n f f') : slice f.byte a n = slice f'.byte a n :=
  slice_congr fun i hi => h _ (by omega) (by omega)

theorem Agree.head (h : Agree ((a, n) :: rs) f f') : EqOn a n f f' := h _ (List.mem_cons_self ..)
theorem Agree.tail (h : Agree (r :: rs) f f') : Agree rs f f' := fun r' hr' => h r' (List.mem_cons_of_mem _ hr')
theorem Agree.left (h : Agree (rs ++ rs') f f') : Agree rs f f' := fun r hr => h r (List.mem_append_left _ hr)
theorem Agree.right (h : Agree (rs ++ rs') f f') : Agree rs' f f' := fun r hr => h r (List.mem_append_right _ hr)

theorem Agree.unit {α : Type} {l : List α} {g : α → Ranges} (h : Agree (l.flatMap g) f f') {i : α} (hi : i ∈ l) :
    Agree (g i) f f' := fun r hr => h r (List.mem_flatMap.2 ⟨i, hi, hr⟩)

theorem Agree.within (h : Agree rs f f') (hw : Within rs a n) : EqOn a n f f' := fun p h1 h2 => by
  obtain ⟨r, hr, h3, h4⟩ := hw p h1 h2
  exact h r hr p h3 h4

theorem File.read_congr (hs : f.size = f'.size) (h : EqOn a n f f') : f.read a n = f'.read a n := by
  unfold File.read
  rw [hs]
  exact (h.sub (Nat.le_refl _) (by omega)).slice

theorem File.readExact_congr (hs : f.size = f'.size) (h : EqOn a n f f') : f.readExact a n = f'.readExact a n := by
  unfold File.readExact
  rw [hs, h.slice]

theorem File.le_congr (hs : f.size = f'.size) (h : EqOn a n f f') : f.le a n = f'.le a n := by
  unfold File.le
  rw [File.readExact_congr hs h]

theorem File.field_congr (hs : f.size = f'.size) (h : EqOn a n f f') (fld : Field) (hin : fld.off + fld.width ≤ n) :
    f.field a n fld = f'.field a n fld := by
  unfold File.field
  rw [hs, (h.sub (Nat.le_add_right ..) (by omega)).slice]

theorem File.chars_congr (hs : f.size = f'.size) (h : EqOn a n f f') (o w : Nat) (hin : o + w ≤ n) :
    f.chars a n o w = f'.chars a n o w := by
  unfold File.chars
  rw [hs, (h.sub (Nat.le_add_right ..) (by omega)).slice]

end

theorem mem_unitsTouched_iff (u off len i : Nat) :
    i ∈ unitsTouched u off len ↔ 0 < len ∧ off / u ≤ i ∧ i ≤ (off + len - 1) / u := by
  unfold unitsTouched
  by_cases hl : len = 0
  · simp [hl]
  · have := Nat.div_le_div_right (c := u) (show off ≤ off + len - 1 by omega)
    simp only [hl, if_false, List.mem_map, List.mem_range]
    constructor
    · rintro ⟨j, hj, rfl⟩
      omega
    · intro h
      exact ⟨i - off / u, by omega, by omega⟩

theorem mem_unitsTouched (u off len o : Nat) (h1 : off ≤ o) (h2 : o < off + len) : o / u ∈ unitsTouched u off len :=
  (mem_unitsTouched_iff ..).2 ⟨by omega, Nat.div_le_div_right h1, Nat.div_le_div_right (by omega)⟩

theorem unitsTouched_length (u off len : Nat) : (unitsTouched u off len).length ≤ len / u + 2 := by
  unfold unitsTouched
  by_cases hl : len = 0
  · simp [hl]
  · simp only [hl, if_false, List.length_map, List.length_range]
    by_cases hu : u = 0
    · subst hu; simp
    · have hu' : 0 < u := by omega
      have h1 := Nat.lt_mul_div_succ off hu'
      have h2 := Nat.lt_mul_div_succ len hu'
      have h3 : off + len - 1 < u * (off / u + len / u + 2) := by
        rw [show off / u + len / u + 2 = (off / u + 1) + (len / u + 1) by omega, Nat.mul_add]
        omega
      have := Nat.div_lt_of_lt_mul h3
      clear h1 h2 h3
      generalize (off + len - 1) / u = A at *
      generalize off / u = B at *
      generalize len / u = C at *
      omega

theorem mem_units {u off len : Nat} {g : Nat → Ranges} {r : Nat × Nat} (hr : r ∈ (unitsTouched u off len).flatMap g) :
    ∃ i, off / u ≤ i ∧ i ≤ (off + len - 1) / u ∧ r ∈ g i := by
  obtain ⟨i, hi, hri⟩ := List.mem_flatMap.1 hr
  exact ⟨i, ((mem_unitsTouched_iff ..).1 hi).2.1, ((mem_unitsTouched_iff ..).1 hi).2.2, hri⟩

theorem partIn_eq (u off len i : Nat) :
    partIn u off len i = (max off (i * u) - i * u, min (off + len) (i * u + u) - max off (i * u)) := by
  rw [partIn, Nat.add_mul, Nat.one_mul]

theorem partIn_inside (u off len i : Nat) (hu : 0 < u) (hi : off / u ≤ i) :
    (partIn u off len i).1 + (partIn u off len i).2 ≤ u := by
  have h1 := Nat.lt_div_mul_add (a := off) hu
  have h2 : off / u * u ≤ i * u := Nat.mul_le_mul_right _ hi
  rw [partIn_eq]
  generalize i * u = A at *
  dsimp only
  omega

theorem partIn_le (u off len i : Nat) : (partIn u off len i).2 ≤ len := by
  rw [partIn_eq]
  dsimp only
  omega

theorem partIn_contains (u off len G : Nat) (hu : 0 < u) (h1 : off ≤ G) (h2 : G < off + len) :
    (partIn u off len (G / u)).1 ≤ G % u ∧ G % u < (partIn u off len (G / u)).1 + (partIn u off len (G / u)).2 := by
  have hb := Nat.lt_div_mul_add (a := G) hu
  have hdm : G / u * u + G % u = G := by rw [Nat.mul_comm]; exact Nat.div_add_mod G u
  rw [partIn_eq]
  generalize G / u * u = A at *
  dsimp only
  omega

theorem sum_parts_le (u off len : Nat) :
    ((unitsTouched u off len).map (fun i => (partIn u off len i).2)).sum ≤ len := by
  unfold unitsTouched
  by_cases hl : len = 0
  · simp [hl]
  rw [if_neg hl, List.map_map]
  -- the parts in the first `k` units touched end where the `k`-th of them ends
  have key : ∀ k, ((List.range k).map ((fun i => (partIn u off len i).2) ∘ (· + off / u))).sum
      ≤ min (off + len) (k * u + off / u * u) - off := by
    intro k
    induction k with
    | zero => simp
    | succ k ih =>
      rw [List.range_succ, List.map_append, List.sum_append, List.map_singleton, List.sum_singleton, Function.comp,
        partIn_eq, Nat.add_mul k 1, Nat.one_mul, Nat.add_right_comm, Nat.add_mul k]
      generalize k * u + off / u * u = C at *
      dsimp only
      omega
  exact Nat.le_trans (key _) (by omega)

/-- `(s, c)` is what is left of the request `[s0, s0 + c0)` when the reader has served it unit by unit (units of `u`):
    a suffix of the request that, unless it is the whole request or empty, starts on a unit boundary -/
structure At (u s0 c0 s c : Nat) : Prop where
  lo : s0 ≤ s
  sum : s + c = s0 + c0
  al : c = 0 ∨ s = s0 ∨ s % u = 0

theorem At.start (u s0 c0 : Nat) : At u s0 c0 s0 c0 := ⟨Nat.le_refl _, rfl, .inr (.inl rfl)⟩

section
variable {u s0 c0 s c : Nat} (h : At u s0 c0 s c)
include h

theorem At.mem (hc : c ≠ 0) : s / u ∈ unitsTouched u s0 c0 :=
  mem_unitsTouched _ _ _ _ h.lo (by have := h.sum; omega)

theorem At.part (hu : 0 < u) (hc : c ≠ 0) : partIn u s0 c0 (s / u) = (s % u, min c (u - s % u)) := by
  obtain ⟨h0, he, hb⟩ := h
  have hs : s / u * u + s % u = s := by rw [Nat.mul_comm]; exact Nat.div_add_mod s u
  have hmod := Nat.mod_lt s hu
  rw [partIn_eq, ← he]
  generalize s / u * u = A at hs ⊢
  generalize s % u = r at *
  subst hs
  have hmax : max s0 A = A + r := by omega
  rw [hmax]
  exact Prod.ext (by omega) (by omega)

theorem At.next (hu : 0 < u) : At u s0 c0 (s + min c (u - s % u)) (c - min c (u - s % u)) := by
  refine ⟨by have := h.lo; omega, by have := h.sum; omega, ?_⟩
  by_cases hr : c - min c (u - s % u) = 0
  · exact .inl hr
  · exact .inr (.inr ((block_step hu (fun hc => hr (by rw [hc, Nat.zero_sub])) rfl).2.2.2 hr).2)

end

theorem blockLoop_units {u s0 c0 : Nat} {g : Nat → Ranges} {f f' : File} {p p' : Nat → Nat → Except Err Bytes} (hu : 0 < u)
    (hag : Agree ((unitsTouched u s0 c0).flatMap g) f f')
    (hp : ∀ s n, Agree (g (s / u)) f f' → partIn u s0 c0 (s / u) = (s % u, n) → p s n = p' s n) (fuel : Nat) :
    blockLoop u p fuel s0 c0 = blockLoop u p' fuel s0 c0 :=
  blockLoop_congr (At u s0 c0) (fun _ _ h _ => h.next hu)
    (fun s _ h hc => hp s _ (hag.unit (h.mem hc)) (h.part hu hc)) _ _ _ (At.start ..)

theorem total_nil : total [] = 0 := rfl
theorem total_cons (r : Nat × Nat) (rs : Ranges) : total (r :: rs) = r.2 + total rs := by
  simp [total]
theorem total_append (a b : Ranges) : total (a ++ b) = total a + total b := by
  simp [total, List.sum_append]

/-- a footprint that has, for every unit touched, at most `k` bytes per byte (sector) of the request's part in the unit
    and `c` bytes more, has at most `k` bytes per byte of the request and `c` per unit touched -/
theorem total_units_le (u off len k c : Nat) (g : Nat → Ranges)
    (h : ∀ i, total (g i) ≤ (partIn u off len i).2 * k + c) :
    total ((unitsTouched u off len).flatMap g) ≤ len * k + c * (len / u + 2) := by
  have key : ∀ l : List Nat, total (l.flatMap g) ≤ (l.map fun i => (partIn u off len i).2).sum * k + c * l.length := by
    intro l
    induction l with
    | nil => simp [total]
    | cons a t ih =>
      rw [List.flatMap_cons, total_append, List.map_cons, List.sum_cons, List.length_cons, Nat.add_mul, Nat.mul_add]
      have := h a
      omega
  refine Nat.le_trans (key _) (Nat.add_le_add ?_ ?_)
  · exact Nat.mul_le_mul_right _ (sum_parts_le u off len)
  · exact Nat.mul_le_mul_left _ (unitsTouched_length u off len)

theorem total_units_le_len (u off len : Nat) (g : Nat → Ranges) (h : ∀ i, total (g i) ≤ (partIn u off len i).2) :
    total ((unitsTouched u off len).flatMap g) ≤ len := by
  have := total_units_le u off len 1 0 g fun i => by rw [Nat.mul_one]; exact h i
  rwa [Nat.mul_one, Nat.zero_mul] at this

end Hv.Footprint
