/- From the *bytes* of a written Hyper-V file to the registry `load` builds: the object-table walk at byte level is the
   abstract walk over the description (`load_encode`).  Independent of the tree assembly (HyperVTree). -/
import HvProofs.HyperV
namespace Hv.HyperV
open Hv Hv.Extracted.hyperv

theorem segByte_of_mem : ∀ (segs : List (Nat × Bytes)), segsDisjoint segs → ∀ (o : Nat) (b : Bytes), (o, b) ∈ segs →
    ∀ i, i < b.length → segByte segs (o + i) = b.getD i 0 := by
  intro segs
  induction segs with
  | nil => intro _ o b hm; cases hm
  | cons s r ih =>
    obtain ⟨o', b'⟩ := s
    intro hd o b hm i hi
    simp only [segsDisjoint, List.pairwise_cons] at hd
    simp only [List.mem_cons] at hm
    rcases hm with hm | hm
    · cases hm
      simp only [segByte]
      rw [if_pos ⟨by omega, by omega⟩, Nat.add_sub_cancel_left]
    · have := hd.1 (o, b) hm
      simp only at this
      simp only [segByte]
      rw [if_neg (by omega)]
      exact ih hd.2 o b hm i hi

/-- `g` holds the bytes `b` at position `k` -/
def At (g : Nat → UInt8) (k : Nat) (b : Bytes) : Prop := slice g k b.length = b

theorem at_seg (segs : List (Nat × Bytes)) (hd : segsDisjoint segs) (o : Nat) (b : Bytes) (hm : (o, b) ∈ segs) :
    At (segByte segs) o b :=
  slice_eq_of _ _ _ (segByte_of_mem segs hd o b hm)

theorem At.split {g : Nat → UInt8} {k : Nat} {a b : Bytes} (h : At g k (a ++ b)) : At g k a ∧ At g (k + a.length) b :=
  slice_split h

theorem At.sub {g : Nat → UInt8} {k : Nat} {b : Bytes} (h : At g k b) (i n : Nat) (hin : i + n ≤ b.length) :
    slice g (k + i) n = (b.drop i).take n := by
  conv => rhs; rw [← show slice g k b.length = b from h]
  rw [slice_drop (by omega), slice_take (by omega)]

theorem field_at (f : File) (base ssize : Nat) (fld : Field) (b : Bytes) (h : At f.byte base b) (hs : base + ssize ≤ f.size)
    (hb : ssize ≤ b.length) (hf : fld.off + fld.width ≤ ssize) : f.field base ssize fld = .ok (bfield b fld) := by
  unfold File.field bfield
  rw [if_pos hs, h.sub fld.off fld.width (Nat.le_trans hf hb)]

/-! ### each stored structure read back: header, replay log, object table, key table -/

theorem HDR_eq : HDR = 46 := by decide
theorem OTH_eq : OTH = 8 := by decide
theorem OTE_eq : OTE = 18 := by decide

theorem HdrSpec.encode_length (h : HdrSpec) : h.encode.length = HDR := by simp [HdrSpec.encode, HDR_eq]

theorem HdrSpec.fields (h : HdrSpec) (hk : h.ok) :
    bfield h.encode HyperVStorageHeader.signature = h.sig ∧ bfield h.encode HyperVStorageHeader.sequence_number = h.seq ∧
    bfield h.encode HyperVStorageHeader.version = h.version ∧ bfield h.encode HyperVStorageHeader.replay_log_offset = h.logOff := by
  obtain ⟨k1, k2, k3, k4⟩ := hk
  simp [HdrSpec.encode, HyperVStorageHeader.signature, HyperVStorageHeader.sequence_number, HyperVStorageHeader.version,
    HyperVStorageHeader.replay_log_offset, bfield_skip, bfield_here, *]

theorem parseHeader_encode (f : File) (off : Nat) (h : HdrSpec) (hk : h.ok) (ha : At f.byte off h.encode) (hs : off + HDR ≤ f.size) :
    parseHeader f off = .ok { signature := h.sig, seq := h.seq, version := h.version, replayLogOffset := h.logOff } := by
  obtain ⟨f1, f2, f3, f4⟩ := h.fields hk
  have hb := Nat.le_of_eq h.encode_length.symm
  unfold parseHeader
  rw [field_at f off HDR _ _ ha hs hb (by decide), field_at f off HDR _ _ ha hs hb (by decide),
    field_at f off HDR _ _ ha hs hb (by decide), field_at f off HDR _ _ ha hs hb (by decide), f1, f2, f3, f4]
  rfl

theorem LogSpec.encode_length (l : LogSpec) : l.encode.length = 12 + l.rest.length := by
  simp [LogSpec.encode]; omega

theorem LogSpec.fields (l : LogSpec) (hk : l.ok) :
    bfield l.encode HyperVStorageReplayLog.signature = SIGNATURE_REPLAY_LOG_HEADER ∧
    bfield l.encode HyperVStorageReplayLog.num_entries = l.n := by
  have := hk.1
  simp [LogSpec.encode, HyperVStorageReplayLog.signature, HyperVStorageReplayLog.num_entries, SIGNATURE_REPLAY_LOG_HEADER,
    bfield_skip, bfield_here, *]

theorem checkReplayLog_encode (f : File) (l : LogSpec) (hk : l.ok) (ha : At f.byte l.off l.encode) (hs : l.off + l.encode.length ≤ f.size) :
    checkReplayLog f l.off = .ok () := by
  obtain ⟨f1, f2⟩ := l.fields hk
  have h2 : LOG + l.n * LOGE ≤ l.encode.length := l.encode_length ▸ hk.2
  have hb : LOG ≤ l.encode.length := Nat.le_trans (Nat.le_add_right _ _) h2
  have hs' : l.off + LOG ≤ f.size := by omega
  unfold checkReplayLog
  rw [field_at f l.off LOG _ _ ha hs' hb (by decide), field_at f l.off LOG _ _ ha hs' hb (by decide), f1, f2]
  simp only [bind, Except.bind, ne_eq, not_true_eq_false, if_false]
  rw [if_pos (by omega)]

theorem ObjSpec.encode_length (o : ObjSpec) : o.encode.length = OTE := by simp [ObjSpec.encode, OTE_eq]

theorem ObjSpec.fields (o : ObjSpec) (hk : o.ok) :
    bfield o.encode HyperVStorageObjectTableEntry.type = o.typ ∧ bfield o.encode HyperVStorageObjectTableEntry.offset = o.offset ∧
    bfield o.encode HyperVStorageObjectTableEntry.size_field = o.size ∧ bfield o.encode HyperVStorageObjectTableEntry.allocated = o.allocated := by
  obtain ⟨k1, k2, k3, k4⟩ := hk
  simp [ObjSpec.encode, HyperVStorageObjectTableEntry.type, HyperVStorageObjectTableEntry.offset,
    HyperVStorageObjectTableEntry.size_field, HyperVStorageObjectTableEntry.allocated, bfield_skip, bfield_here, bfield_last, *]

theorem objEntryAt_encode (f : File) (base : Nat) (o : ObjSpec) (hk : o.ok) (ha : At f.byte base o.encode) :
    objEntryAt f base = o.parsed := by
  obtain ⟨f1, f2, f3, f4⟩ := o.fields hk
  have hw : slice f.byte base o.encode.length = o.encode := ha
  rw [o.encode_length] at hw
  simp only [objEntryAt, hw, f1, f2, f3, f4, ObjSpec.parsed]

theorem encodeObjs_length (es : List ObjSpec) : (encodeObjs es).length = es.length * OTE := by
  induction es with
  | nil => simp [encodeObjs]
  | cons o r ih => simp only [encodeObjs, List.length_append, o.encode_length, ih, List.length_cons, Nat.succ_mul]; omega

theorem objEntry_encode (f : File) : ∀ (es : List ObjSpec) (base : Nat), (∀ o ∈ es, o.ok) → At f.byte base (encodeObjs es) →
    ∀ i (hi : i < es.length), objEntryAt f (base + i * OTE) = es[i].parsed
  | [], _, _, _, _, hi => by cases hi
  | o :: r, base, hk, ha, i, hi => by
    simp only [encodeObjs] at ha
    cases i with
    | zero => simpa using objEntryAt_encode f base o (hk o (by simp)) ha.split.1
    | succ i =>
      have := objEntry_encode f r (base + OTE) (fun x hx => hk x (by simp [hx])) (o.encode_length ▸ ha.split.2) i (by simpa using hi)
      rwa [Nat.add_assoc, Nat.add_comm OTE, ← Nat.succ_mul] at this

theorem OTSpec.encode_length (t : OTSpec) : t.encode.length = OTH + t.entries.length * OTE := by
  simp [OTSpec.encode, encodeObjs_length, OTH_eq]; omega

theorem OTSpec.fields (t : OTSpec) (hk : t.ok) :
    bfield t.encode HyperVStorageObjectTable.signature = SIGNATURE_OBJECT_TABLE_HEADER ∧
    bfield t.encode HyperVStorageObjectTable.num_entries = t.entries.length := by
  have := hk.1
  simp [OTSpec.encode, HyperVStorageObjectTable.signature, HyperVStorageObjectTable.num_entries, SIGNATURE_OBJECT_TABLE_HEADER,
    bfield_skip, bfield_here, *]

theorem loadObjectTable_encode (f : File) (t : OTSpec) (hk : t.ok) (ha : At f.byte t.off t.encode) (hs : t.off + t.encode.length ≤ f.size) :
    loadObjectTable f t.off = .ok (t.entries.map ObjSpec.parsed) := by
  have hl := t.encode_length
  obtain ⟨f1, f2⟩ := t.fields hk
  have hb : OTH ≤ t.encode.length := by omega
  have hs' : t.off + OTH ≤ f.size := by omega
  have hobjs : At f.byte (t.off + OTH) (encodeObjs t.entries) := by
    have := ha.split.2.split.2
    simpa [OTH_eq, Nat.add_assoc] using this
  unfold loadObjectTable
  rw [field_at f t.off OTH _ _ ha hs' hb (by decide), field_at f t.off OTH _ _ ha hs' hb (by decide), f1, f2]
  simp only [bind, Except.bind, ne_eq, not_true_eq_false, if_false]
  rw [if_pos (by omega)]
  exact congrArg _ (List.ext_getElem (by simp) fun i h1 _ => by
    simpa using objEntry_encode f t.entries (t.off + OTH) hk.2 hobjs i (by simpa using h1))

theorem encodeEntries_length (ss : List SEntry) : (encodeEntries ss).length = totalSize ss := by
  induction ss with
  | nil => simp [encodeEntries, totalSize]
  | cons s r ih => rw [encodeEntries_cons, totalSize_cons, List.length_append, s.encode_length, ih]

theorem encodeTable_length (i q c : Nat) (ss : List SEntry) : (encodeTable i q c ss).length = KTH + totalSize ss := by
  simp [encodeTable, encodeEntries_length, KTH_eq]; omega

theorem parseKeyTable_region (k : KTSpec) (hk : k.ok) : parseKeyTable k.encode k.encode.length = .ok k.table := by
  obtain ⟨h1, h2, h3⟩ := hk
  have hl := length_le_totalSize k.entries
  unfold KTSpec.encode KTSpec.table
  cases k.tail with
  | none =>
    simp only []
    rw [← List.append_nil (encodeTable _ _ _ _)]
    exact parseKeyTable_stored _ _ _ _ _ _ h1 h2 h3 (by simp [encodeTable_length]) (walkEntries_end _ _ _ _ (by simp [encodeTable_length]))
  | some t =>
    simp only []
    exact parseKeyTable_stored _ _ _ _ _ _ h1 h2 h3 (by simp [encodeTable_length])
      (walkEntries_zero _ _ _ _ (by simp [encodeTable_length, EH_eq]; omega))

/-! ### the file the writer lays out holds every structure of the description at its offset -/

/-- the clauses of `Phys.WF` about the lists of structures and about the layout -/
structure Phys.Parts (d : Phys) : Prop where
  logs : ∀ l ∈ d.logs, l.ok
  ots : ∀ t ∈ d.ots, t.ok ∧ ∀ o ∈ t.entries, d.refOK o
  kts : ∀ k ∈ d.kts, k.ok
  disjoint : segsDisjoint d.segs
  inside : segsInside d.segs d.size

theorem Phys.WF.parts {d : Phys} (h : d.WF) : d.Parts :=
  ⟨h.2.2.2.2.2.1, h.2.2.2.2.2.2.2.1, h.2.2.2.2.2.2.2.2.1, h.2.2.2.2.2.2.2.2.2.1, h.2.2.2.2.2.2.2.2.2.2⟩

theorem Phys.log_mem (d : Phys) {l : LogSpec} (hl : l ∈ d.logs) : (l.off, l.encode) ∈ d.segs :=
  .tail _ (.tail _ (List.mem_append_left _ (List.mem_map_of_mem hl)))
theorem Phys.ot_mem (d : Phys) {t : OTSpec} (ht : t ∈ d.ots) : (t.off, t.encode) ∈ d.segs :=
  .tail _ (.tail _ (List.mem_append_right _ (List.mem_append_left _ (List.mem_map_of_mem ht))))
theorem Phys.kt_mem (d : Phys) {k : KTSpec} (hk : k ∈ d.kts) : (k.off, k.encode) ∈ d.segs :=
  .tail _ (.tail _ (List.mem_append_right _ (List.mem_append_right _ (List.mem_append_left _ (List.mem_map_of_mem hk)))))
theorem Phys.blob_mem (d : Phys) {b : Nat × Bytes} (hb : b ∈ d.blobs) : b ∈ d.segs :=
  .tail _ (.tail _ (List.mem_append_right _ (List.mem_append_right _ (List.mem_append_right _ hb))))

theorem Phys.seg_facts (d : Phys) (h : d.WF) {o : Nat} {b : Bytes} (hm : (o, b) ∈ d.segs) :
    At d.file.byte o b ∧ o + b.length ≤ d.file.size :=
  ⟨at_seg d.segs h.parts.disjoint o b hm, h.parts.inside (o, b) hm⟩

theorem Phys.load_ot (d : Phys) (h : d.WF) (off : Nat) (t : OTSpec) (hf : d.findOT off = some t) :
    loadObjectTable d.file off = .ok (t.entries.map ObjSpec.parsed) := by
  obtain ⟨hm, rfl⟩ := find?_off d.ots OTSpec.off off t hf
  obtain ⟨ha, hs⟩ := d.seg_facts h (d.ot_mem hm)
  exact loadObjectTable_encode d.file t (h.parts.ots t hm).1 ha hs

theorem Phys.check_log (d : Phys) (h : d.WF) (off : Nat) (hf : (d.findLog off).isSome) : checkReplayLog d.file off = .ok () := by
  obtain ⟨l, hl⟩ := Option.isSome_iff_exists.1 hf
  obtain ⟨hm, rfl⟩ := find?_off d.logs LogSpec.off off l hl
  obtain ⟨ha, hs⟩ := d.seg_facts h (d.log_mem hm)
  exact checkReplayLog_encode d.file l (h.parts.logs l hm) ha hs

theorem Phys.parse_kt (d : Phys) (h : d.WF) (off : Nat) (k : KTSpec) (hf : d.findKT off = some k) :
    parseKeyTable (d.file.read off k.encode.length) k.encode.length = .ok k.table := by
  obtain ⟨hm, rfl⟩ := find?_off d.kts KTSpec.off off k hf
  obtain ⟨ha, hs⟩ := d.seg_facts h (d.kt_mem hm)
  rw [File.read_eq_slice hs, show slice _ _ _ = _ from ha]
  exact parseKeyTable_region k (h.parts.kts k hm)

/-! ### the reader's walk over the bytes is the abstract walk (`SimW`), step by step -/

theorem stepReg_sim (d : Phys) (h : d.WF) (o : ObjSpec)
    (hk : o.typ = otKeyTable → match d.findKT o.offset with | some k => k.encode.length = o.size | none => False)
    (hl : o.typ = otReplayLog → (d.findLog o.offset).isSome) (r : Reg) (tabs : List KeyTable) (hr : r.keyTables = registerAll tabs) :
    ∃ r', stepReg d.file o.parsed r = .ok r' ∧ r'.keyTables = registerAll (sTabs d o tabs) ∧ r'.fileObjects = sFos o r.fileObjects := by
  obtain ⟨n4, n5, n6⟩ : otKeyTable ≠ otFile ∧ otKeyTable ≠ otReplayLog ∧ otFile ≠ otReplayLog := by decide
  unfold stepReg sTabs sFos
  simp only [ObjSpec.parsed, bind, Except.bind]
  by_cases c1 : o.typ = otKeyTable
  · have hk' := hk c1
    cases hf : d.findKT o.offset with
    | none => rw [hf] at hk'; exact hk'.elim
    | some k =>
      rw [hf] at hk'
      simp only [c1, if_true, ← show k.encode.length = o.size from hk', d.parse_kt h _ k hf, n4, n5, if_false]
      exact ⟨_, rfl, by rw [registerAll_snoc, hr], rfl⟩
  · by_cases c2 : o.typ = otFile
    · simp only [c2, n4.symm, n6, if_true, if_false]
      exact ⟨_, rfl, hr, rfl⟩
    · by_cases c3 : o.typ = otReplayLog
      · simp only [c3, n5.symm, n6.symm, if_true, if_false, d.check_log h _ (hl c3)]
        exact ⟨_, rfl, hr, rfl⟩
      · simp only [c1, c2, c3, if_false]
        exact ⟨_, rfl, hr, rfl⟩

/-- the simulation relation between the model's walk state and the abstract one -/
structure SimW (d : Phys) (w : Walk) (s : SWalk) : Prop where
  visited : w.visited = s.visited
  pending : w.pending = s.pending.map (List.map ObjSpec.parsed)
  tabs : w.reg.keyTables = registerAll s.tabs
  fos : w.reg.fileObjects = s.fos
  /-- what is still queued is well formed: what `stepEntries_sim` asks of a table it takes off the queue -/
  queued : ∀ es ∈ s.pending, ∀ o ∈ es, o.ok ∧ d.refOK o

theorem stepObj_sim (d : Phys) (h : d.WF) (o : ObjSpec) (r1 : o.typ = otObjectTable → (d.findOT o.offset).isSome)
    (w : Walk) (s : SWalk) (hs : SimW d w s) : ∃ w1, stepObj d.file o.parsed w = .ok w1 ∧ SimW d w1 (sObj d o s) := by
  obtain ⟨s1, s2, s3, s4, s5⟩ := hs
  unfold stepObj sObj
  simp only [ObjSpec.parsed, s1]
  by_cases c : o.typ = otObjectTable ∧ ¬ s.visited.contains o.offset
  · rw [if_pos c, if_pos c]
    obtain ⟨t, hf⟩ := Option.isSome_iff_exists.1 (r1 c.1)
    rw [hf, d.load_ot h o.offset t hf]
    refine ⟨_, rfl, by rw [← s1], by simp [s2], s3, s4, fun es hes => ?_⟩
    rcases List.mem_append.1 hes with hes | hes
    · exact s5 es hes
    · rw [List.mem_singleton.1 hes]
      have := h.parts.ots t (find?_off d.ots OTSpec.off _ t hf).1
      exact fun x hx => ⟨this.1.2 x hx, this.2 x hx⟩
  · rw [if_neg c, if_neg c]
    exact ⟨w, rfl, s1, s2, s3, s4, s5⟩

theorem stepEntry_sim (d : Phys) (h : d.WF) (o : ObjSpec) (hr : d.refOK o) (w : Walk) (s : SWalk) (hs : SimW d w s) :
    ∃ w', stepEntry d.file o.parsed w = .ok w' ∧ SimW d w' (sStepEntry d o s) := by
  unfold stepEntry sStepEntry
  by_cases c0 : o.allocated = 0
  · rw [if_pos c0, if_pos (show o.parsed.allocated = 0 from c0)]
    exact ⟨w, rfl, hs⟩
  · rw [if_neg c0, if_neg (show ¬ o.parsed.allocated = 0 from c0)]
    obtain ⟨r1, r2, r3⟩ := hr.resolve_left c0
    obtain ⟨w1, e1, q1, q2, q3, q4, q5⟩ := stepObj_sim d h o r1 w s hs
    obtain ⟨r', e3, e4, e5⟩ := stepReg_sim d h o r2 r3 w1.reg _ q3
    simp only [e1, e3]
    exact ⟨_, rfl, q1, q2, e4, by rw [e5, q4], q5⟩

theorem stepEntries_sim (d : Phys) (h : d.WF) : ∀ (es : List ObjSpec), (∀ o ∈ es, d.refOK o) → ∀ (w : Walk) (s : SWalk), SimW d w s →
    ∃ w', stepEntries d.file (es.map ObjSpec.parsed) w = .ok w' ∧ SimW d w' (sStepEntries d es s)
  | [], _, w, s, hs => ⟨w, rfl, hs⟩
  | o :: r, hr, w, s, hs => by
    obtain ⟨w1, e1, q⟩ := stepEntry_sim d h o (hr o (by simp)) w s hs
    simp only [List.map_cons, stepEntries, e1, sStepEntries]
    exact stepEntries_sim d h r (fun x hx => hr x (by simp [hx])) w1 _ q

/-- the walk over the bytes, when its fuel lasts, is the abstract walk.  Its own induction, not an invariant of the walk state:
    it proves that every step succeeds, against an abstract state `s` that moves along (`sWalk d fuel s`) -/
theorem walkTables_sim (d : Phys) (h : d.WF) : ∀ (fuel : Nat) (w : Walk) (s : SWalk), SimW d w s → Halts (walkTables d.file fuel w) →
    ∃ reg, walkTables d.file fuel w = .ok reg ∧ reg.keyTables = registerAll (sWalk d fuel s).tabs ∧ reg.fileObjects = (sWalk d fuel s).fos
  | 0, w, s, ⟨_, s2, s3, s4, _⟩, hh => by
    unfold walkTables sWalk at *
    cases hp : w.pending with
    | nil => exact ⟨w.reg, rfl, s3, s4⟩
    | cons a r => rw [hp] at hh; exact absurd rfl hh
  | fuel + 1, w, s, ⟨s1, s2, s3, s4, s5⟩, hh => by
    unfold walkTables sWalk at *
    cases hsp : s.pending with
    | nil =>
      rw [hsp] at s2
      simp only [s2, List.map_nil]
      exact ⟨w.reg, rfl, s3, s4⟩
    | cons ses srest =>
      rw [hsp] at s2 s5
      simp only [s2, List.map_cons] at hh ⊢
      have hs0 : SimW d { w with pending := srest.map (List.map ObjSpec.parsed) } { s with pending := srest } :=
        ⟨s1, rfl, s3, s4, fun es hes => s5 es (by simp [hes])⟩
      obtain ⟨w', e1, q⟩ := stepEntries_sim d h ses (fun o ho => (s5 ses (by simp) o ho).2) _ _ hs0
      simp only [e1] at hh ⊢
      exact walkTables_sim d h fuel w' _ q hh

theorem load_of_steps {f : File} {h1 h2 : Header} {es : List ObjEntry} (p1 : parseHeader f FIRST_HEADER_OFFSET = .ok h1)
    (p2 : parseHeader f SECOND_HEADER_OFFSET = .ok h2) (hs : (chooseHeader h1 h2).signature = SIGNATURE_STORAGE_HEADER)
    (hv : (chooseHeader h1 h2).version = VERSION) (hl : checkReplayLog f (chooseHeader h1 h2).replayLogOffset = .ok ())
    (ho : loadObjectTable f OBJECT_TABLE_OFFSET = .ok es) :
    load f = walkTables f (walkFuel f) { visited := [OBJECT_TABLE_OFFSET], pending := [es], reg := {} } := by
  simp [load, p1, p2, hs, hv, hl, ho, bind, Except.bind]

theorem load_encode (d : Phys) (h : d.WF) :
    ∃ reg, load d.file = .ok reg ∧ reg.keyTables = registerAll d.regTables ∧ reg.fileObjects = d.regFos := by
  have a6 := h.parts.ots
  have ⟨k1, k2, a1, a2, a3, _, a5, _⟩ := h
  obtain ⟨ha1, hs1⟩ := d.seg_facts h (.head _)
  obtain ⟨ha2, hs2⟩ := d.seg_facts h (.tail _ (.head _))
  rw [HdrSpec.encode_length] at hs1 hs2
  have p1 := parseHeader_encode d.file FIRST_HEADER_OFFSET d.h1 k1 ha1 hs1
  have p2 := parseHeader_encode d.file SECOND_HEADER_OFFSET d.h2 k2 ha2 hs2
  have hch : chooseHeader { signature := d.h1.sig, seq := d.h1.seq, version := d.h1.version, replayLogOffset := d.h1.logOff }
      { signature := d.h2.sig, seq := d.h2.seq, version := d.h2.version, replayLogOffset := d.h2.logOff } =
      { signature := d.active.sig, seq := d.active.seq, version := d.active.version, replayLogOffset := d.active.logOff } := by
    unfold chooseHeader Phys.active
    simp only []
    split <;> rfl
  obtain ⟨t0, hot⟩ := Option.isSome_iff_exists.1 a5
  have hload := load_of_steps p1 p2 (by rw [hch]; exact a1) (by rw [hch]; exact a2) (by rw [hch]; exact d.check_log h _ a3)
    (d.load_ot h _ t0 hot)
  have hs0 : SimW d { visited := [OBJECT_TABLE_OFFSET], pending := [t0.entries.map ObjSpec.parsed], reg := {} }
      { visited := [OBJECT_TABLE_OFFSET], pending := [t0.entries], tabs := [], fos := [] } := by
    refine ⟨rfl, rfl, rfl, rfl, fun es hes o ho => ?_⟩
    rw [List.mem_singleton.1 hes] at ho
    have := a6 t0 (find?_off d.ots OTSpec.off _ t0 hot).1
    exact ⟨this.1.2 o ho, this.2 o ho⟩
  obtain ⟨reg, e, q1, q2⟩ := walkTables_sim d h (walkFuel d.file) _ _ hs0 (hload ▸ load_halts d.file)
  refine ⟨reg, hload ▸ e, ?_, ?_⟩
  · rw [q1]; unfold Phys.regTables Phys.walk; rw [hot]; rfl
  · rw [q2]; unfold Phys.regFos Phys.walk; rw [hot]; rfl

end Hv.HyperV
