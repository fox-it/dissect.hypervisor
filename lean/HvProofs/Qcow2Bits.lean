/- Bit arithmetic behind the QCOW2 reader. -/
import Hv.Qcow2Spec
import HvProofs.Basic
import HvProofs.Wide
namespace Hv.Qcow2
open Hv Hv.Extracted.qcow2

theorem and_two_pow_ne_zero (a i : Nat) : a &&& 2 ^ i ≠ 0 ↔ a.testBit i = true := by
  constructor
  · intro h
    obtain ⟨j, hj⟩ := Nat.exists_testBit_of_ne_zero h
    rw [Nat.testBit_and, Nat.testBit_two_pow, Bool.and_eq_true, decide_eq_true_eq] at hj
    exact hj.2 ▸ hj.1
  · intro h h0
    have := Nat.testBit_and a (2 ^ i) i
    rw [h0, Nat.zero_testBit, h, Nat.testBit_two_pow_self] at this
    cases this

theorem and_two_pow_eq_zero (a i : Nat) : a &&& 2 ^ i = 0 ↔ a.testBit i = false := by
  rw [← Bool.not_eq_true, ← and_two_pow_ne_zero, ne_eq, Classical.not_not]

theorem eq_zero_iff_testBit (a : Nat) : a = 0 ↔ ∀ i, a.testBit i = false := by
  constructor
  · intro h i; rw [h, Nat.zero_testBit]
  · intro h
    apply Nat.eq_of_testBit_eq
    intro i; rw [h i, Nat.zero_testBit]

/-! `ctz` / `cto` are a first index; the first index after `sf` ends a run -/

/-- the first index below `n` at which `p` holds, `n` if there is none: what `ctz` / `cto` compute (`ctz_eq`, `cto_eq`) -/
def firstIdx (p : Nat → Bool) (n : Nat) : Nat := ((List.range n).find? p).getD n

theorem firstIdx_le (p : Nat → Bool) (n : Nat) : firstIdx p n ≤ n := by
  unfold firstIdx
  cases h : (List.range n).find? p with
  | none => simp
  | some k =>
    have := (List.find?_range_eq_some.mp h).2.1
    simp only [List.mem_range] at this
    simp only [Option.getD_some]; omega

theorem firstIdx_before (p : Nat → Bool) (n i : Nat) (hi : i < firstIdx p n) : p i = false := by
  unfold firstIdx at hi
  cases h : (List.range n).find? p with
  | none =>
    rw [h] at hi
    simp only [Option.getD_none] at hi
    have := List.find?_range_eq_none.mp h i hi
    simpa using this
  | some k =>
    rw [h] at hi
    simp only [Option.getD_some] at hi
    have := (List.find?_range_eq_some.mp h).2.2 i hi
    simpa using this

theorem firstIdx_gt (p : Nat → Bool) (n s : Nat) (hs : s < n) (h : ∀ i, i ≤ s → p i = false) : s < firstIdx p n := by
  unfold firstIdx
  cases hf : (List.range n).find? p with
  | none => simpa using hs
  | some k =>
    simp only [Option.getD_some]
    have hk := (List.find?_range_eq_some.mp hf).1
    apply Classical.byContradiction
    intro hc
    have := h k (by omega)
    rw [this] at hk; cases hk

theorem ctz_eq (v n : Nat) : ctz v n = firstIdx (fun i => v.testBit i) n := rfl
theorem cto_eq (v n : Nat) : cto v n = firstIdx (fun i => !v.testBit i) n := rfl

theorem ctz_two_pow : ∀ cb, cb < 22 → ctz (2 ^ cb) 32 = cb := by decide
theorem invMask_eq : ∀ sf, sf < 33 → 2 ^ 64 - 1 - (2 ^ sf - 1) = (2 ^ (64 - sf) - 1) * 2 ^ sf := by decide

/-- a word whose bits below `sf` are set and whose other bits are those of `r`: its trailing ones from `sf` on are a
    run of `r` (`ctz_range`: the same for a word cleared below `sf` and trailing zeros) -/
theorem cto_range (v sf : Nat) (r : Nat → Bool) (hv : ∀ i, v.testBit i = (r i || decide (i < sf)))
    (hsf : sf < 32) (h0 : r sf = true) :
    1 ≤ cto v 32 - sf ∧ sf + (cto v 32 - sf) ≤ 32 ∧ ∀ s, sf ≤ s → s < sf + (cto v 32 - sf) → r s = true := by
  have hgt : sf < cto v 32 := firstIdx_gt _ 32 sf hsf (fun i hi => by
    rw [hv]
    by_cases hlt : i < sf
    · simp [hlt]
    · have : i = sf := by omega
      simp [this, h0])
  have hle : cto v 32 ≤ 32 := firstIdx_le _ _
  refine ⟨by omega, by omega, fun s h1 h2 => ?_⟩
  have : (!v.testBit s) = false := firstIdx_before _ 32 s (show s < cto v 32 by omega)
  rw [hv] at this
  simpa [Nat.not_lt.mpr h1] using this

theorem ctz_range (v sf : Nat) (r : Nat → Bool) (hv : ∀ i, i < 64 → v.testBit i = (r i && decide (sf ≤ i)))
    (hsf : sf < 32) (h0 : r sf = false) :
    1 ≤ ctz v 32 - sf ∧ sf + (ctz v 32 - sf) ≤ 32 ∧ ∀ s, sf ≤ s → s < sf + (ctz v 32 - sf) → r s = false := by
  have hgt : sf < ctz v 32 := firstIdx_gt _ 32 sf hsf (fun i hi => by
    rw [hv i (by omega)]
    by_cases hlt : i < sf
    · simp [Nat.not_le.mpr hlt]
    · have : i = sf := by omega
      simp [this, h0])
  have hle : ctz v 32 ≤ 32 := firstIdx_le _ _
  refine ⟨by omega, by omega, fun s h1 h2 => ?_⟩
  have : v.testBit s = false := firstIdx_before _ 32 s (show s < ctz v 32 by omega)
  rw [hv s (by omega)] at this
  simpa [h1] using this

/-! the two sanity checks `get_subcluster_type` makes on a bitmap, bit by bit, and the bits of the words
    `get_subcluster_range_type` counts in -/

/-- the check `(bm >>> 32) & bm` of the code is zero iff no sub-cluster is both allocated and zero -/
theorem disjoint_iff (bm : Nat) :
    (bm >>> 32) &&& bm = 0 ↔ ∀ i, ¬ (bm.testBit i = true ∧ bm.testBit (i + 32) = true) := by
  rw [eq_zero_iff_testBit]
  refine forall_congr' fun i => ?_
  rw [Nat.testBit_and, Nat.testBit_shiftRight, Nat.add_comm 32 i]
  cases bm.testBit i <;> cases bm.testBit (i + 32) <;> simp

theorem lowBits_iff (bm : Nat) : bm &&& (2 ^ 32 - 1) = 0 ↔ ∀ i, i < 32 → bm.testBit i = false := by
  rw [eq_zero_iff_testBit]
  refine forall_congr' fun i => ?_
  rw [Nat.testBit_and, Nat.testBit_two_pow_sub_one]
  by_cases hi : i < 32 <;> simp [hi]

theorem zeroVal_bit (bm sf i : Nat) :
    ((bm ||| ((2 ^ sf - 1) <<< 32)) >>> 32).testBit i = (bm.testBit (i + 32) || decide (i < sf)) := by
  rw [Nat.testBit_shiftRight, Nat.testBit_or, Nat.testBit_shiftLeft, Nat.testBit_two_pow_sub_one, Nat.add_comm 32 i]
  simp

theorem unallocVal_bit (bm sf i : Nat) (hsf : sf < 33) (hi : i < 64) :
    (((bm >>> 32) ||| bm) &&& (2 ^ 64 - 1 - (2 ^ sf - 1))).testBit i
      = ((bm.testBit (i + 32) || bm.testBit i) && decide (sf ≤ i)) := by
  rw [invMask_eq sf hsf, Nat.testBit_and, Nat.testBit_or, Nat.testBit_shiftRight, Nat.testBit_mul_two_pow,
    Nat.testBit_two_pow_sub_one, Nat.add_comm 32 i]
  by_cases h : sf ≤ i
  · have : i - sf < 64 - sf := by omega
    simp [h, this]
  · simp [h]

/-! the code's masks and flags are the specification's bit fields; a table word is below `2 ^ 64` -/

theorem offsetMask_eq : L2E_OFFSET_MASK = (2 ^ (56 - 9) - 1) <<< 9 := by decide

theorem offset_mask (e : Nat) : e &&& L2E_OFFSET_MASK = hostOff e := by
  rw [offsetMask_eq, Wide.and_mask_shiftLeft, Nat.shiftLeft_eq, Nat.shiftRight_eq_div_pow, hostOff,
    show (2 : Nat) ^ 56 = 2 ^ 9 * 2 ^ (56 - 9) by decide, Nat.mod_mul_right_div_self]

theorem compressed_flag (e : Nat) : e &&& QCOW_OFLAG_COMPRESSED ≠ 0 ↔ e.testBit 62 = true := by
  rw [show QCOW_OFLAG_COMPRESSED = 2 ^ 62 from by decide]; exact and_two_pow_ne_zero e 62
theorem zero_flag (e : Nat) : e &&& QCOW_OFLAG_ZERO ≠ 0 ↔ e.testBit 0 = true := by
  rw [show QCOW_OFLAG_ZERO = 2 ^ 0 from by decide]; exact and_two_pow_ne_zero e 0
theorem copied_flag (e : Nat) : e &&& QCOW_OFLAG_COPIED ≠ 0 ↔ e.testBit 63 = true := by
  rw [show QCOW_OFLAG_COPIED = 2 ^ 63 from by decide]; exact and_two_pow_ne_zero e 63

theorem be64_lt (q : QCow2) (o : Nat) : q.be64 o < 2 ^ 64 := by
  have := leNat_lt (slice q.fh.byte o 8).reverse
  rw [List.length_reverse, slice_length] at this
  rw [QCow2.be64, beNat_eq]
  exact this

end Hv.Qcow2
