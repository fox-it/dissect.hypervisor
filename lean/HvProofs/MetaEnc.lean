/- The snapshot-table and parent-locator writers round-trip through the reader models. -/
import Hv.MetaEnc
import HvProofs.Meta
import HvProofs.Outcome
namespace Hv.Meta
open Hv

section snap
open Hv.Extracted.qcow2

@[simp] theorem snapHeader_length (s : SnapSpec) : (snapHeader s).length = 40 := by simp [snapHeader]

theorem encodeSnap_length (s : SnapSpec) : (encodeSnap s).length = align8 s.entrySize := by
  have := align8_ge s.entrySize
  simp only [encodeSnap, List.length_append, snapHeader_length, zeros_length]
  unfold SnapSpec.entrySize at this ⊢
  omega

theorem beBytes8_zero : beBytes 8 0 = zeros 8 := by decide

/-- the known extra fields, zero padded to the 24-byte struct, are the three 64-bit fields (0 when absent) -/
theorem extra_padded (x : SnapExtra) :
    x.bytes.take 24 ++ zeros (24 - min x.bytes.length 24) = beBytes 8 x.large ++ (beBytes 8 x.disk ++ beBytes 8 x.icount) := by
  cases x with
  | none => simp [SnapExtra.bytes, SnapExtra.large, SnapExtra.disk, SnapExtra.icount, beBytes8_zero, zeros]
  | v16 l d =>
    simp [SnapExtra.bytes, SnapExtra.large, SnapExtra.disk, SnapExtra.icount, beBytes8_zero, List.take_of_length_le]
  | v24 l d i =>
    simp [SnapExtra.bytes, SnapExtra.large, SnapExtra.disk, SnapExtra.icount, List.take_of_length_le, zeros]
  | more l d i t =>
    simp only [SnapExtra.bytes, SnapExtra.large, SnapExtra.disk, SnapExtra.icount]
    rw [List.take_left' (by simp)]
    simp [zeros]
    omega

theorem SnapExtra.ok_bounds (x : SnapExtra) (h : x.ok = true) :
    x.large < 2 ^ 64 ∧ x.disk < 2 ^ 64 ∧ x.icount < 2 ^ 64 ∧ x.bytes.length < 2 ^ 32 := by
  cases x <;> simp_all [SnapExtra.ok, SnapExtra.large, SnapExtra.disk, SnapExtra.icount, SnapExtra.bytes] <;> omega

theorem SnapSpec.ok_bounds (s : SnapSpec) (h : s.ok = true) :
    s.l1Offset < 2 ^ 64 ∧ s.l1Size < 2 ^ 32 ∧ s.dateSec < 2 ^ 32 ∧ s.dateNsec < 2 ^ 32 ∧ s.vmClock < 2 ^ 64 ∧
    s.vmStateSize < 2 ^ 32 ∧ s.extra.ok = true ∧ s.idStr.length < 2 ^ 16 ∧ s.name.length < 2 ^ 16 := by
  simpa [SnapSpec.ok, and_assoc] using h

theorem unknown_eq (x : SnapExtra) :
    (if x.bytes.length > 24 then some ((x.bytes.drop 24).take (x.bytes.length - 24)) else none) = x.unknown := by
  cases x with
  | none => simp [SnapExtra.bytes, SnapExtra.unknown]
  | v16 l d => simp [SnapExtra.bytes, SnapExtra.unknown]
  | v24 l d i => simp [SnapExtra.bytes, SnapExtra.unknown]
  | more l d i t =>
    simp only [SnapExtra.bytes, SnapExtra.unknown]
    rw [List.drop_left' (by simp)]
    by_cases ht : t = []
    · simp [ht]
    · have : 0 < t.length := List.length_pos_iff.mpr ht
      simp [ht]
      exact ⟨by omega, List.take_of_length_le (by omega)⟩

theorem snapField_be (fh : File) (offset k w bits v : Nat) (hb : 2 ^ bits = 256 ^ w) (hv : v < 256 ^ w)
    (hs : slice fh.byte (offset + k) w = beBytes w v) : snapField fh offset ⟨k, w, true, 0, bits⟩ = v := by
  unfold snapField
  rw [hs, decode_be k w bits v hb hv]

theorem snap_encoded (fh : File) (off : Nat) (s : SnapSpec) (hok : s.ok = true)
    (hb : slice fh.byte off (encodeSnap s).length = encodeSnap s) :
    snapField fh off QCowSnapshotHeader.l1_table_offset = s.l1Offset ∧
    snapField fh off QCowSnapshotHeader.l1_size = s.l1Size ∧
    snapField fh off QCowSnapshotHeader.id_str_size = s.idStr.length ∧
    snapField fh off QCowSnapshotHeader.name_size = s.name.length ∧
    snapField fh off QCowSnapshotHeader.date_sec = s.dateSec ∧
    snapField fh off QCowSnapshotHeader.date_nsec = s.dateNsec ∧
    snapField fh off QCowSnapshotHeader.vm_clock_nsec = s.vmClock ∧
    snapField fh off QCowSnapshotHeader.vm_state_size = s.vmStateSize ∧
    snapField fh off QCowSnapshotHeader.extra_data_size = s.extra.bytes.length ∧
    slice fh.byte (off + 40) s.extra.bytes.length = s.extra.bytes ∧
    slice fh.byte (off + 40 + s.extra.bytes.length) s.idStr.length = s.idStr ∧
    slice fh.byte (off + 40 + s.extra.bytes.length + s.idStr.length) s.name.length = s.name := by
  obtain ⟨o1, o2, o3, o4, o5, o6, ox, o7, o8⟩ := s.ok_bounds hok
  obtain ⟨-, -, -, x4⟩ := s.extra.ok_bounds ox
  obtain ⟨hh, ht⟩ := slice_split (a := snapHeader s) hb
  unfold snapHeader at hh
  obtain ⟨d1, hh⟩ := slice_split hh
  obtain ⟨d2, hh⟩ := slice_split hh
  obtain ⟨d3, hh⟩ := slice_split hh
  obtain ⟨d4, hh⟩ := slice_split hh
  obtain ⟨d5, hh⟩ := slice_split hh
  obtain ⟨d6, hh⟩ := slice_split hh
  obtain ⟨d7, hh⟩ := slice_split hh
  obtain ⟨d8, d9⟩ := slice_split hh
  obtain ⟨tx, ht⟩ := slice_split ht
  obtain ⟨ti, ht⟩ := slice_split ht
  obtain ⟨tn, -⟩ := slice_split ht
  simp only [beBytes_length, snapHeader_length, Nat.add_assoc, Nat.reduceAdd] at d1 d2 d3 d4 d5 d6 d7 d8 d9 tx ti tn
  simp only [← Nat.add_assoc] at ti tn
  -- offset, width and bit count of each field are literals here; `exact` checks them against
  -- `Extracted.qcow2.QCowSnapshotHeader.*` when it unifies `⟨k, w, true, 0, bits⟩` with the field of the statement
  exact ⟨snapField_be fh off 0 8 64 _ (by decide) (by simpa using o1) d1,
    snapField_be fh off 8 4 32 _ (by decide) (by simpa using o2) d2,
    snapField_be fh off 12 2 16 _ (by decide) (by simpa using o7) d3,
    snapField_be fh off 14 2 16 _ (by decide) (by simpa using o8) d4,
    snapField_be fh off 16 4 32 _ (by decide) (by simpa using o3) d5,
    snapField_be fh off 20 4 32 _ (by decide) (by simpa using o4) d6,
    snapField_be fh off 24 8 64 _ (by decide) (by simpa using o5) d7,
    snapField_be fh off 32 4 32 _ (by decide) (by simpa using o6) d8,
    snapField_be fh off 36 4 32 _ (by decide) (by simpa using x4) d9, tx, ti, tn⟩


theorem snap_span (off a b c : Nat) : off + 40 + a + b + c - off = 40 + a + b + c := by omega

theorem snap_fit {fh : File} {off : Nat} {s : SnapSpec} (hsz : off + (encodeSnap s).length ≤ fh.size) :
    off + 40 + s.extra.bytes.length + s.idStr.length + s.name.length ≤ fh.size := by
  have h1 := align8_ge s.entrySize
  have h2 : s.entrySize = 40 + s.extra.bytes.length + s.idStr.length + s.name.length := rfl
  rw [encodeSnap_length] at hsz
  omega

theorem readSnapFull_encoded (fh : File) (off : Nat) (s : SnapSpec) (hok : s.ok = true)
    (hb : slice fh.byte off (encodeSnap s).length = encodeSnap s) (hsz : off + (encodeSnap s).length ≤ fh.size) :
    readSnapFull fh off = .ok s.expected := by
  have hfit := snap_fit hsz
  obtain ⟨-, -, -, -, -, -, ox, -, -⟩ := s.ok_bounds hok
  obtain ⟨x1, x2, x3, -⟩ := s.extra.ok_bounds ox
  obtain ⟨hL1Off, hL1Size, hIdSize, hNameSize, hDateSec, hDateNsec, hVmClock, hVmState, hExtraSize, tx, ti, tn⟩ := snap_encoded fh off s hok hb
  simp only [snapField] at hL1Off hL1Size hIdSize hNameSize hDateSec hDateNsec hVmClock hVmState hExtraSize
  have hz : QCowSnapshotHeader.size = 40 := rfl
  simp only [readSnapFull, hz, hL1Off, hL1Size, hIdSize, hNameSize, hDateSec, hDateNsec, hVmClock, hVmState, hExtraSize]
  rw [if_pos (by omega), snapTail_layout fh (off + 40) _ _ _ hfit]
  simp only [ti, tn, snap_span]
  have hk : slice fh.byte (off + 40) (min s.extra.bytes.length 24) = s.extra.bytes.take 24 := by
    by_cases h24 : s.extra.bytes.length ≤ 24
    · rw [Nat.min_eq_left h24, tx, List.take_of_length_le h24]
    · rw [Nat.min_eq_right (by omega), ← slice_take (len := s.extra.bytes.length) (by omega), tx]
  have hu : slice fh.byte (off + 40 + 24) (s.extra.bytes.length - 24) = (s.extra.bytes.drop 24).take (s.extra.bytes.length - 24) := by
    by_cases h24 : 24 ≤ s.extra.bytes.length
    · rw [← slice_drop (len := s.extra.bytes.length) h24, tx, List.take_of_length_le (by simp)]
    · have : s.extra.bytes.length - 24 = 0 := by omega
      simp [this]
  rw [hk, hu, extra_padded, unknown_eq]
  have e1 : QCowSnapshotExtraData.vm_state_size_large = ⟨0, 8, true, 0, 64⟩ := rfl
  have e2 : QCowSnapshotExtraData.disk_size = ⟨8, 8, true, 0, 64⟩ := rfl
  have e3 : QCowSnapshotExtraData.icount = ⟨16, 8, true, 0, 64⟩ := rfl
  have p1 : ((beBytes 8 s.extra.large ++ (beBytes 8 s.extra.disk ++ beBytes 8 s.extra.icount)).drop 0).take 8 = beBytes 8 s.extra.large := by
    simp
  have p2 : ((beBytes 8 s.extra.large ++ (beBytes 8 s.extra.disk ++ beBytes 8 s.extra.icount)).drop 8).take 8 = beBytes 8 s.extra.disk := by
    rw [List.drop_left' (beBytes_length 8 _), List.take_left' (beBytes_length 8 _)]
  have p3 : ((beBytes 8 s.extra.large ++ (beBytes 8 s.extra.disk ++ beBytes 8 s.extra.icount)).drop 16).take 8 = beBytes 8 s.extra.icount := by
    have h16 : (beBytes 8 s.extra.large ++ beBytes 8 s.extra.disk).length = 16 := by simp
    rw [← List.append_assoc, List.drop_left' h16, List.take_of_length_le (by simp)]
  simp only [e1, e2, e3, p1, p2, p3]
  rw [decode_be 0 8 64 _ (by decide) (by simpa using x1), decode_be 8 8 64 _ (by decide) (by simpa using x2),
    decode_be 16 8 64 _ (by decide) (by simpa using x3)]
  rfl


/-- a table walker that, on an encoded entry, yields `exp s` and goes on behind it, returns the specs of an encoded table -/
theorem table_encoded {α : Type} (fh : File) (walk : Nat → Nat → Except Err (List α)) (exp : SnapSpec → α)
    (h0 : ∀ off, walk 0 off = .ok [])
    (hS : ∀ n off s, s.ok = true → slice fh.byte off (encodeSnap s).length = encodeSnap s →
      off + (encodeSnap s).length ≤ fh.size →
      walk (n + 1) off = (walk n (off + (encodeSnap s).length)).map (exp s :: ·)) :
    ∀ (ss : List SnapSpec) (off : Nat), (∀ s ∈ ss, s.ok = true) →
    slice fh.byte off (encodeSnaps ss).length = encodeSnaps ss → off + (encodeSnaps ss).length ≤ fh.size →
    walk ss.length off = .ok (ss.map exp) := by
  intro ss
  induction ss with
  | nil => intro off _ _ _; exact h0 off
  | cons s ss ih =>
    intro off hok hb hsz
    obtain ⟨h1, h2⟩ := slice_split (a := encodeSnap s) hb
    simp only [encodeSnaps, List.length_append] at hsz
    rw [List.length_cons, hS _ _ s (hok s (by simp)) h1 (by omega),
      ih _ (fun s' hs' => hok s' (by simp [hs'])) h2 (by omega)]
    rfl

theorem readSnapsFull_encoded (fh : File) : ∀ (ss : List SnapSpec) (off : Nat), (∀ s ∈ ss, s.ok = true) →
    slice fh.byte off (encodeSnaps ss).length = encodeSnaps ss → off + (encodeSnaps ss).length ≤ fh.size →
    readSnapsFull fh ss.length off = .ok (ss.map SnapSpec.expected) :=
  table_encoded fh (readSnapsFull fh) SnapSpec.expected (fun _ => rfl) fun n off s hok hb hsz => by
    have e : align8 (SnapSpec.expected s).entrySize = (encodeSnap s).length := (encodeSnap_length s).symm
    simp only [readSnapsFull, readSnapFull_encoded fh off s hok hb hsz, e]
    cases readSnapsFull fh n (off + (encodeSnap s).length) <;> rfl

/-- the read path's own snapshot walk (`Qcow2.readSnapshot(s)`, the fields C01 needs) on the same bytes -/
theorem readSnapshot_encoded (fh : File) (off : Nat) (s : SnapSpec) (hok : s.ok = true)
    (hb : slice fh.byte off (encodeSnap s).length = encodeSnap s) (hsz : off + (encodeSnap s).length ≤ fh.size) :
    Qcow2.readSnapshot fh off = .ok s.expectedQ := by
  have hfit := snap_fit hsz
  obtain ⟨hL1Off, hL1Size, hIdSize, hNameSize, -, -, -, -, hExtraSize, tx, ti, tn⟩ := snap_encoded fh off s hok hb
  simp only [snapField] at hL1Off hL1Size hIdSize hNameSize hExtraSize
  have hz : QCowSnapshotHeader.size = 40 := rfl
  have h40 : off + 40 ≤ fh.size := by omega
  simp only [Qcow2.readSnapshot, File.field, hz, hL1Off, hL1Size, hIdSize, hNameSize, hExtraSize, h40, if_true, Bind.bind, Except.bind]
  rw [File.read_eq_slice (off := off + 40) (by omega), tx,
    File.read_eq_slice (off := off + 40 + s.extra.bytes.length) (by omega), ti,
    File.read_eq_slice (off := off + 40 + s.extra.bytes.length + s.idStr.length) (by omega), tn, snap_span]
  rfl

theorem readSnapshots_encoded (fh : File) : ∀ (ss : List SnapSpec) (off : Nat), (∀ s ∈ ss, s.ok = true) →
    slice fh.byte off (encodeSnaps ss).length = encodeSnaps ss → off + (encodeSnaps ss).length ≤ fh.size →
    Qcow2.readSnapshots fh ss.length off = .ok (ss.map SnapSpec.expectedQ) :=
  table_encoded fh (Qcow2.readSnapshots fh) SnapSpec.expectedQ (fun _ => rfl) fun n off s hok hb hsz => by
    have e : ((SnapSpec.expectedQ s).entrySize + 7) / 8 * 8 = (encodeSnap s).length := (encodeSnap_length s).symm
    simp only [Qcow2.readSnapshots, readSnapshot_encoded fh off s hok hb hsz, Bind.bind, Except.bind, e]
    cases Qcow2.readSnapshots fh n (off + (encodeSnap s).length) <;> rfl
end snap

section locator
open Hv.Extracted.vhdx Hv.Vhdx

@[simp] theorem encodeLocEntry_length (e : LocEntry) : (encodeLocEntry e).length = 12 := by
  simp [encodeLocEntry, leBytes_length]

theorem encodeLocTable_length (es : List LocEntry) : (encodeLocTable es).length = 12 * es.length := by
  induction es with
  | nil => rfl
  | cons e es ih => simp only [encodeLocTable, List.length_append, encodeLocEntry_length, ih, List.length_cons]; omega

theorem locTable_entry {g : Nat → UInt8} : ∀ (es : List LocEntry) (base : Nat),
    slice g base (encodeLocTable es).length = encodeLocTable es → ∀ (i : Nat) (hi : i < es.length),
    slice g (base + i * 12) (encodeLocEntry es[i]).length = encodeLocEntry es[i]
  | e :: es, base, h, 0, _ => by simpa using (slice_split (a := encodeLocEntry e) h).1
  | e :: es, base, h, i + 1, hi => by
    have := locTable_entry es _ (slice_split (a := encodeLocEntry e) h).2 i (by simpa using hi)
    rw [encodeLocEntry_length, Nat.add_assoc, Nat.add_comm 12, ← Nat.succ_mul] at this
    exact this

/-- the file stores a parent locator at `off`: header and entry table as the format lays them out, and every string at the
    offset / with the length its entry records — strings may sit anywhere (gaps, any order, shared) -/
structure LocStored (fh : File) (off : Nat) (ty : Bytes) (es : List LocEntry) : Prop where
  ty_len : ty.length = 16
  count : es.length < 2 ^ 16
  ok : ∀ e ∈ es, e.ok = true
  hdr : slice fh.byte off (20 + 12 * es.length) = encodeLocHeader ty es.length ++ encodeLocTable es
  fit : off + (20 + 12 * es.length) ≤ fh.size
  strs : ∀ e ∈ es, off + e.ko + e.key.length ≤ fh.size ∧ slice fh.byte (off + e.ko) e.key.length = e.key ∧
           off + e.vo + e.value.length ≤ fh.size ∧ slice fh.byte (off + e.vo) e.value.length = e.value

theorem LocEntry.ok_bounds (e : LocEntry) (h : e.ok = true) :
    e.ko < 2 ^ 32 ∧ e.vo < 2 ^ 32 ∧ e.key.length < 2 ^ 16 ∧ e.value.length < 2 ^ 16 := by
  simpa [LocEntry.ok, and_assoc] using h

theorem locEntry_fields (fh : File) (base : Nat) (e : LocEntry) (hok : e.ok = true) (hsz : base + 12 ≤ fh.size)
    (hs : slice fh.byte base (encodeLocEntry e).length = encodeLocEntry e) :
    fh.field base 12 parent_locator_entry.key_offset = .ok e.ko ∧
    fh.field base 12 parent_locator_entry.value_offset = .ok e.vo ∧
    fh.field base 12 parent_locator_entry.key_length = .ok e.key.length ∧
    fh.field base 12 parent_locator_entry.value_length = .ok e.value.length := by
  obtain ⟨k1, k2, k3, k4⟩ := e.ok_bounds hok
  unfold encodeLocEntry at hs
  obtain ⟨f1, hs⟩ := slice_split hs
  obtain ⟨f2, hs⟩ := slice_split hs
  obtain ⟨f3, f4⟩ := slice_split hs
  simp only [leBytes_length, Nat.add_assoc, Nat.reduceAdd] at f1 f2 f3 f4
  exact ⟨field_le fh base 12 0 4 32 _ (by decide) (by simpa using k1) hsz f1,
    field_le fh base 12 4 4 32 _ (by decide) (by simpa using k2) hsz f2,
    field_le fh base 12 8 2 16 _ (by decide) (by simpa using k3) hsz f3,
    field_le fh base 12 10 2 16 _ (by decide) (by simpa using k4) hsz f4⟩


theorem parseLocator_stored (fh : File) (off : Nat) (ty : Bytes) (es : List LocEntry) (h : LocStored fh off ty es) :
    parseLocator fh off = .ok (.parentLocator ty (es.map fun e => (e.key, e.value))) := by
  obtain ⟨hty, hcnt, hok, hhdr, hfit, hstrs⟩ := h
  have hEl : (encodeLocHeader ty es.length ++ encodeLocTable es).length = 20 + 12 * es.length := by
    simp [encodeLocHeader, hty, encodeLocTable_length, leBytes_length]; omega
  rw [← hEl] at hhdr
  -- header: type GUID, reserved, count; then the table
  obtain ⟨hh, htab⟩ := slice_split hhdr
  unfold encodeLocHeader at hh htab
  obtain ⟨c1, hh⟩ := slice_split hh
  obtain ⟨-, c2⟩ := slice_split hh
  simp only [List.length_append, leBytes_length, hty, Nat.add_assoc, Nat.reduceAdd] at c1 c2 htab
  have h20 : off + 20 ≤ fh.size := by omega
  have hn : fh.field off 20 parent_locator_header.key_value_count = .ok es.length :=
    field_le fh off 20 18 2 16 _ (by decide) (by simpa using hcnt) h20 c2
  have c1 : slice fh.byte (off + parent_locator_header.locator_type.1) parent_locator_header.locator_type.2 = ty := c1
  simp only [parseLocator, File.chars, show parent_locator_header.size = 20 from rfl,
    show parent_locator_entry.size = 12 from rfl, if_pos h20, hn, c1, Bind.bind, Except.bind]
  -- entry `i` of the result as a total function of `i` (the default is never reached)
  rw [← List.map_id (List.range es.length),
    mapM_map_ok (h := fun i => match es[i]? with | some e => (e.key, e.value) | none => ([], []))]
  · simp only [pure, Except.pure]
    congr 2
    apply List.ext_getElem
    · simp
    · intro i h1 h2
      simp only [List.length_map, List.length_range] at h1 h2
      simp [h2]
  · intro i hi
    have hi' : i < es.length := by simpa using hi
    simp only [id]
    have hmem : es[i] ∈ es := List.getElem_mem hi'
    obtain ⟨s1, s2, s3, s4⟩ := hstrs _ hmem
    obtain ⟨g1, g2, g3, g4⟩ := locEntry_fields fh (off + 20 + i * 12) es[i] (hok _ hmem) (by omega)
      (locTable_entry es _ htab i hi')
    simp only [g1, g2, g3, g4, pure, Except.pure]
    rw [File.read_eq_slice s1, File.read_eq_slice s3, s2, s4]
    simp [hi']

theorem packEntries_kv : ∀ (kvs : List (Bytes × Bytes)) (pos : Nat),
    (packEntries pos kvs).map (fun e => (e.key, e.value)) = kvs := by
  intro kvs; induction kvs with
  | nil => intro _; rfl
  | cons kv kvs ih => intro pos; obtain ⟨k, v⟩ := kv; simp [packEntries, ih]

theorem packEntries_length : ∀ (kvs : List (Bytes × Bytes)) (pos : Nat), (packEntries pos kvs).length = kvs.length := by
  intro kvs; induction kvs with
  | nil => intro _; rfl
  | cons kv kvs ih => intro pos; obtain ⟨k, v⟩ := kv; simp [packEntries, ih]

theorem packEntries_strs (g : Nat → UInt8) (off : Nat) : ∀ (kvs : List (Bytes × Bytes)) (pos : Nat),
    slice g (off + pos) (stringArea kvs).length = stringArea kvs →
    ∀ e ∈ packEntries pos kvs,
      pos ≤ e.ko ∧ e.ko + e.key.length ≤ pos + (stringArea kvs).length ∧ slice g (off + e.ko) e.key.length = e.key ∧
      pos ≤ e.vo ∧ e.vo + e.value.length ≤ pos + (stringArea kvs).length ∧ slice g (off + e.vo) e.value.length = e.value ∧
      (e.key, e.value) ∈ kvs := by
  intro kvs
  induction kvs with
  | nil => intro pos _ e he; cases he
  | cons kv kvs ih =>
    intro pos hb e he
    obtain ⟨k, v⟩ := kv
    obtain ⟨hk, hrest⟩ := slice_split (a := k) hb
    obtain ⟨hv, hrest⟩ := slice_split hrest
    simp only [packEntries, List.mem_cons] at he
    simp only [stringArea, List.length_append]
    rcases he with rfl | he
    · simp only
      refine ⟨Nat.le_refl _, by omega, hk, by omega, by omega, ?_, by simp⟩
      rw [← Nat.add_assoc]; exact hv
    · have := ih (pos + k.length + v.length) (by rw [← Nat.add_assoc, ← Nat.add_assoc]; exact hrest) e he
      obtain ⟨a1, a2, a3, a4, a5, a6, a7⟩ := this
      exact ⟨by omega, by omega, a3, by omega, by omega, a6, by simp [a7]⟩

theorem encodeLocator_stored (fh : File) (off : Nat) (ty : Bytes) (kvs : List (Bytes × Bytes))
    (hty : ty.length = 16) (hcnt : kvs.length < 2 ^ 16)
    (hkv : ∀ kv ∈ kvs, kv.1.length < 2 ^ 16 ∧ kv.2.length < 2 ^ 16)
    (hlen : (encodeLocator ty kvs).length < 2 ^ 32)
    (hb : slice fh.byte off (encodeLocator ty kvs).length = encodeLocator ty kvs)
    (hsz : off + (encodeLocator ty kvs).length ≤ fh.size) :
    LocStored fh off ty (packEntries (20 + 12 * kvs.length) kvs) := by
  have hn := packEntries_length kvs (20 + 12 * kvs.length)
  have hHl : (encodeLocHeader ty kvs.length).length = 20 := by simp [encodeLocHeader, hty, leBytes_length]
  have hTl := encodeLocTable_length (packEntries (20 + 12 * kvs.length) kvs)
  rw [hn] at hTl
  have hEl : (encodeLocator ty kvs).length = 20 + 12 * kvs.length + (stringArea kvs).length := by
    simp only [encodeLocator, List.length_append, hHl, hTl]; omega
  have hb' := hb
  unfold encodeLocator at hb'
  rw [← List.append_assoc] at hb'
  obtain ⟨h1, h2⟩ := slice_split hb'
  have hpre : (encodeLocHeader ty kvs.length ++ encodeLocTable (packEntries (20 + 12 * kvs.length) kvs)).length
      = 20 + 12 * kvs.length := by simp only [List.length_append, hHl, hTl]
  rw [hpre] at h1 h2
  have hs := packEntries_strs fh.byte off kvs (20 + 12 * kvs.length) h2
  refine ⟨hty, by rw [hn]; exact hcnt, ?_, by rw [hn]; exact h1, by rw [hn]; omega, ?_⟩
  · intro e he
    obtain ⟨a1, a2, _, a4, a5, _, a7⟩ := hs e he
    have := hkv _ a7
    simp only [LocEntry.ok, Bool.and_eq_true, decide_eq_true_eq]
    exact ⟨⟨⟨by omega, by omega⟩, this.1⟩, this.2⟩
  · intro e he
    obtain ⟨a1, a2, a3, a4, a5, a6, _⟩ := hs e he
    exact ⟨by omega, a3, by omega, a6⟩

end locator
end Hv.Meta
