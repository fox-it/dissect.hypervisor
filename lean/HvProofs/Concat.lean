/- Multi-extent assembly: the VMDK extent walk (`VMDK.read_sectors`) and the Parallels `StorageStream._read` return the
   concatenation of the extents. -/
import Hv.Concat
import HvProofs.Basic
import HvProofs.Lists
import HvProofs.Vmdk
namespace Hv.Concat
open Hv Hv.Vmdk

theorem concat_head (p : Part) (ps : List Part) (o : Nat) (h : o < p.sectors * 512) :
    concat (p :: ps) o = p.content o := by
  simp [concat, h]

theorem concat_tail (p : Part) (ps : List Part) (o : Nat) (h : p.sectors * 512 ≤ o) :
    concat (p :: ps) o = concat ps (o - p.sectors * 512) := by
  have : ¬ o < p.sectors * 512 := by omega
  simp [concat, this]

def sectorsOf (ds : List Vmdk.Disk) : Nat := (ds.map (·.sectorCount)).sum

@[simp] theorem sectorsOf_nil : sectorsOf [] = 0 := rfl
@[simp] theorem sectorsOf_cons (d : Vmdk.Disk) (ds : List Vmdk.Disk) :
    sectorsOf (d :: ds) = d.sectorCount + sectorsOf ds := by
  simp [sectorsOf]

theorem readAs_sectors : ∀ (ds : List Vmdk.Disk) (ps : List Part), ReadAs ds ps → sectorsOf ds = total ps
  | [], [], _ => rfl
  | [], _ :: _, h => by cases h
  | _ :: _, [], h => by cases h
  | d :: ds, p :: ps, h => by
    have := readAs_sectors ds ps h.2
    simp only [sectorsOf_cons, total, this, h.1.1]

/-! ### segments: what the VMDK extent walk and the Parallels storage walk have in common -/

/-- a piece of an assembled disk: the sectors `[lo, hi)` and a reader that takes absolute sector numbers -/
structure Seg where
  lo : Nat
  hi : Nat
  rd : Nat → Nat → Except Err Bytes

/-- segments back to back from `start`, segment `i` reading as part `i` (offsets relative to the segment) -/
def SegTiles : Nat → List Seg → List Part → Prop
  | _, [], [] => True
  | start, x :: xs, p :: ps =>
    x.lo = start ∧ 0 < p.sectors ∧ x.hi = start + p.sectors ∧
    (∀ s c, start ≤ s → s + c ≤ x.hi → x.rd s c = .ok (slice p.content ((s - start) * 512) (c * 512))) ∧
    SegTiles x.hi xs ps
  | _, _, _ => False

theorem segTiles_takeWhile : ∀ (xs : List Seg) (ps : List Part) (start s : Nat), SegTiles start xs ps → s < start →
    (xs.map (·.lo)).takeWhile (· ≤ s) = []
  | [], _, _, _, _, _ => rfl
  | _ :: _, [], _, _, h, _ => by cases h
  | x :: _, _ :: _, _, s, h, hs => by
    have : ¬ x.lo ≤ s := h.1 ▸ Nat.not_le_of_lt hs
    simp [this]

theorem segTiles_tail_takeWhile : ∀ (xs : List Seg) (ps : List Part) (start : Nat), SegTiles start xs ps →
    (xs.tail.map (·.lo)).takeWhile (· ≤ start) = []
  | [], _, _, _ => rfl
  | _ :: _, [], _, h => by cases h
  | x :: r, p :: ps, start, h =>
    segTiles_takeWhile r ps x.hi start h.2.2.2.2 (h.2.2.1 ▸ Nat.lt_add_of_pos_right h.2.1)

theorem slice_concat_head (p : Part) (ps : List Part) (a m : Nat) (h : a + m ≤ p.sectors) :
    slice (concat (p :: ps)) (a * 512) (m * 512) = slice p.content (a * 512) (m * 512) := by
  apply slice_congr
  intro i hi
  have := Nat.mul_le_mul_right 512 h
  rw [Nat.add_mul] at this
  exact concat_head _ _ _ (Nat.lt_of_lt_of_le (Nat.add_lt_add_left hi _) this)

theorem slice_concat_tail (p : Part) (ps : List Part) (a m : Nat) :
    slice (concat (p :: ps)) ((p.sectors + a) * 512) m = slice (concat ps) (a * 512) m := by
  apply slice_shift
  intro i _
  rw [Nat.add_mul, Nat.add_assoc, concat_tail _ _ _ (Nat.le_add_right _ _), Nat.add_sub_cancel_left]

/-- what the two walks are, as far as their results on well-formed layouts go: nothing is read for an empty request; a
    request that starts inside segment `i` of `xs` — entry `k + i` of the walk's table — reads what that segment holds
    of it and goes on with the next entry -/
structure Walks (L : Nat → Nat → Nat → Nat → Except Err Bytes) (k : Nat) (xs : List Seg) : Prop where
  zero : ∀ fuel s idx, L fuel s 0 idx = .ok []
  step : ∀ fuel s c i x, xs[i]? = some x → 0 < c → x.lo ≤ s → s < x.hi →
    L (fuel + 1) s c (k + i) = (x.rd s (min (x.hi - s) c)).bind fun d =>
      (L fuel (s + min (x.hi - s) c) (c - min (x.hi - s) c) (k + i + 1)).bind fun rest => .ok (d ++ rest)

theorem Walks.tail {L : Nat → Nat → Nat → Nat → Except Err Bytes} {k : Nat} {x : Seg} {r : List Seg}
    (h : Walks L k (x :: r)) : Walks L (k + 1) r :=
  ⟨h.zero, fun fuel s c i y hy hc hlo hhi => by
    rw [Nat.add_right_comm k 1 i]
    exact h.step fuel s c (i + 1) y hy hc hlo hhi⟩

/-- A walk over segments that tile `[start, start + total ps)` as the parts `ps` returns the concatenation.
    The walk is entered at the table entry both loops compute: `bisect_right` of `s` over the starts of the segments
    after the first (`xs.tail`) counts the segments that begin at or before `s`, i.e. gives the position in `xs` of the
    segment containing `s`; `k` is where `xs` begins in the walk's table.  `c < fuel`: every iteration serves at least
    one sector (segments are not empty), so `c` iterations are enough; both loops are called with more
    (`count + 1`, `count + size + 1`). -/
theorem walk_concat {L : Nat → Nat → Nat → Nat → Except Err Bytes} : ∀ (xs : List Seg) (ps : List Part) (start k : Nat),
    SegTiles start xs ps → Walks L k xs → ∀ fuel s c, start ≤ s → s + c ≤ start + total ps → 0 < c → c < fuel →
      L fuel s c (k + ((xs.tail.map (·.lo)).takeWhile (· ≤ s)).length)
        = .ok (slice (concat ps) ((s - start) * 512) (c * 512))
  | [], [], _, _, _, _, _, s, c, hlo, hhi, hc, _ =>
    absurd hhi (Nat.not_le_of_lt (Nat.lt_of_le_of_lt hlo (Nat.lt_add_of_pos_right hc)))
  | [], _ :: _, _, _, h, _, _, _, _, _, _, _, _ => by cases h
  | _ :: _, [], _, _, h, _, _, _, _, _, _, _, _ => by cases h
  | x :: r, p :: ps, start, k, h, hL, fuel, s, c, hlo, hhi, hc, hfuel => by
    obtain ⟨h1, h2, h3, h4, h5⟩ := h
    rw [show total (p :: ps) = p.sectors + total ps from rfl, ← Nat.add_assoc, ← h3] at hhi
    by_cases hs : x.hi ≤ s
    · -- the request starts in a later segment
      obtain ⟨d, rfl⟩ := Nat.exists_eq_add_of_le hs
      cases r with
      | nil =>
        cases ps with
        | nil => exact absurd hhi (Nat.not_le_of_lt (Nat.lt_of_le_of_lt hs (Nat.lt_add_of_pos_right hc)))
        | cons _ _ => cases h5
      | cons e es =>
        have he : e.lo ≤ x.hi + d := by
          cases ps with
          | nil => cases h5
          | cons _ _ => exact h5.1 ▸ hs
        have := walk_concat (e :: es) ps x.hi (k + 1) h5 hL.tail fuel (x.hi + d) c hs hhi hc hfuel
        rw [Nat.add_sub_cancel_left, List.tail_cons] at this
        simp only [List.tail_cons, List.map_cons, List.takeWhile_cons, he, decide_true, if_true, List.length_cons]
        rw [← Nat.add_assoc, Nat.add_right_comm k _ 1, this, h3, Nat.add_assoc, Nat.add_sub_cancel_left,
          slice_concat_tail]
    · -- it starts in `x`
      have hs : s < x.hi := Nat.lt_of_not_le hs
      obtain ⟨fuel, rfl⟩ := Nat.exists_eq_add_one.2 (Nat.zero_lt_of_lt hfuel)
      have hroom : s + (x.hi - s) = x.hi := Nat.add_sub_cancel' (Nat.le_of_lt hs)
      rw [List.tail_cons, segTiles_takeWhile r ps x.hi s h5 hs]
      have hstep := hL.step fuel s c 0 x rfl hc (h1 ▸ hlo) hs
      rw [Nat.add_zero] at hstep
      rw [List.length_nil, Nat.add_zero, hstep, h4 s _ hlo
        (Nat.le_trans (Nat.add_le_add_left (Nat.min_le_left _ _) s) (Nat.le_of_eq hroom))]
      obtain ⟨a, rfl⟩ := Nat.exists_eq_add_of_le hlo
      rw [Nat.add_sub_cancel_left]
      generalize x.hi - (start + a) = n at hroom ⊢
      have han : a + n = p.sectors := Nat.add_left_cancel (by rw [← Nat.add_assoc, hroom, h3])
      by_cases hin : c ≤ n
      · -- and ends there
        rw [Nat.min_eq_right hin, Nat.sub_self, hL.zero]
        simp only [Except.bind, List.append_nil]
        rw [slice_concat_head p ps a c (han ▸ Nat.add_le_add_left hin a)]
      · -- and goes on at the first sector of the next segment
        have hle : n ≤ c := Nat.le_of_lt (Nat.lt_of_not_le hin)
        have hcnt : n + (c - n) = c := Nat.add_sub_cancel' hle
        have hn : 0 < n := Nat.pos_of_ne_zero fun h0 => Nat.lt_irrefl _ (by rw [h0, Nat.add_zero] at hroom; exact hroom ▸ hs)
        rw [← hcnt, ← Nat.add_assoc, hroom] at hhi
        have := walk_concat r ps x.hi (k + 1) h5 hL.tail fuel x.hi (c - n) (Nat.le_refl _) hhi
          (Nat.sub_pos_of_lt (Nat.lt_of_not_le hin))
          (Nat.lt_of_lt_of_le (Nat.sub_lt (Nat.lt_of_lt_of_le hn hle) hn) (Nat.le_of_lt_succ hfuel))
        rw [segTiles_tail_takeWhile r ps x.hi h5, List.length_nil, Nat.add_zero, Nat.sub_self, Nat.zero_mul] at this
        rw [Nat.min_eq_left hle, hroom, this]
        simp only [Except.bind]
        have t := slice_concat_tail p ps 0 ((c - n) * 512)
        rw [Nat.add_zero, Nat.zero_mul] at t
        rw [← slice_concat_head p ps a n (Nat.le_of_eq han), ← t, ← han, ← slice_append_mul, hcnt]

/-- the fold of `VMDK.__init__`'s offset bookkeeping -/
def offStep (acc : List Nat × Nat × Nat) (d : Vmdk.Disk) : List Nat × Nat × Nat :=
  ((if acc.2.2 ≠ 0 then acc.1 ++ [acc.2.1] else acc.1), acc.2.1 + d.sectorCount, acc.2.2 + d.size)

theorem diskOffsets_eq (v : Vmdk) : v.diskOffsets = (v.disks.toList.foldl offStep ([], 0, 0)).1 := rfl

theorem offStep_foldl : ∀ (ds : List Vmdk.Disk) (acc : List Nat) (sc sz : Nat), sz ≠ 0 → Contiguous sc ds →
    (ds.foldl offStep (acc, sc, sz)).1 = acc ++ ds.map (·.sectorOffset)
  | [], acc, sc, sz, _, _ => by simp
  | d :: ds, acc, sc, sz, hsz, hc => by
    obtain ⟨h1, _, _, h4⟩ := hc
    simp only [List.foldl_cons, offStep, ne_eq, hsz, not_false_eq_true, if_true]
    rw [offStep_foldl ds _ _ _ (by omega) h4]
    simp [h1]

theorem diskOffsets_contiguous (v : Vmdk) (h : Contiguous 0 v.disks.toList) :
    v.diskOffsets = v.disks.toList.tail.map (·.sectorOffset) := by
  rw [diskOffsets_eq]
  cases hl : v.disks.toList with
  | nil => rfl
  | cons d ds =>
    rw [hl] at h
    obtain ⟨h1, h2, h3, h4⟩ := h
    simp only [List.foldl_cons, offStep, ne_eq, not_true_eq_false, if_false, List.tail_cons]
    rw [offStep_foldl ds _ _ _ (by omega) h4]
    simp

def diskSeg (d : Vmdk.Disk) : Seg := ⟨d.sectorOffset, d.sectorOffset + d.sectorCount, d.readSectors⟩

/-- `bisect_right` over the later start sectors finds the disk containing `sector`, for a `Contiguous` layout alone — no
    parts, no reads: what C10's `bisect_finds_extent` states.  `walk_concat` does not go through it: there the same
    counting is one case of the induction over segments that also read as parts. -/
theorem bisect_contig (sector : Nat) : ∀ (ds : List Vmdk.Disk) (d : Vmdk.Disk) (start : Nat),
    Contiguous start (d :: ds) → start ≤ sector → sector < start + sectorsOf (d :: ds) →
    ∃ e, (d :: ds)[Vmdk.bisectRight (ds.map (·.sectorOffset)) sector]? = some e ∧
      e.sectorOffset ≤ sector ∧ sector < e.sectorOffset + e.sectorCount
  | [], d, start, hc, hlo, hhi => ⟨d, rfl, hc.1 ▸ hlo, by rw [hc.1]; simpa using hhi⟩
  | e :: es, d, start, hc, hlo, hhi => by
    obtain ⟨h1, _, _, h4⟩ := hc
    by_cases hle : e.sectorOffset ≤ sector
    · obtain ⟨x, hx, hx1, hx2⟩ := bisect_contig sector es e (start + d.sectorCount) h4 (h4.1 ▸ hle)
        (by rw [sectorsOf_cons, ← Nat.add_assoc] at hhi; exact hhi)
      refine ⟨x, ?_, hx1, hx2⟩
      simp only [Vmdk.bisectRight, List.map_cons, List.takeWhile_cons, hle, decide_true, if_true,
        List.length_cons, List.getElem?_cons_succ]
      exact hx
    · refine ⟨d, by simp [Vmdk.bisectRight, hle], h1 ▸ hlo, h1 ▸ h4.1 ▸ Nat.lt_of_not_le hle⟩

theorem walks_vmdk (v : Vmdk) : Walks v.readSectorsLoop 0 (v.disks.toList.map diskSeg) where
  zero := readSectorsLoop_zero v
  step := fun fuel s c idx x hx hc _ hhi => by
    rw [List.getElem?_map] at hx
    obtain ⟨d, hd, rfl⟩ := Option.map_eq_some_iff.mp hx
    rw [Nat.zero_add]
    exact readSectorsLoop_succ v fuel s c idx d (by simpa using hd) hc hhi

theorem segTiles_of_readAs : ∀ (ds : List Vmdk.Disk) (ps : List Part) (start : Nat),
    Contiguous start ds → ReadAs ds ps → SegTiles start (ds.map diskSeg) ps
  | [], [], _, _, _ => trivial
  | [], _ :: _, _, _, h => by cases h
  | _ :: _, [], _, _, h => by cases h
  | d :: ds, p :: ps, start, hc, hr => by
    obtain ⟨h1, h2, _, h4⟩ := hc
    obtain ⟨⟨hcnt, hread⟩, hr'⟩ := hr
    refine ⟨h1, hcnt ▸ h2, by show d.sectorOffset + d.sectorCount = _; rw [h1, hcnt], fun s c hlo hhi => ?_, ?_⟩
    · have hhi : s + c ≤ d.sectorOffset + d.sectorCount := hhi
      show d.readSectors s c = _
      rw [hread s c (by omega) (by omega), h1]
    · show SegTiles (d.sectorOffset + d.sectorCount) _ _
      rw [h1]
      exact segTiles_of_readAs ds ps _ h4 hr'

theorem readSectors_concat (v : Vmdk) (ps : List Part) (hc : Contiguous 0 v.disks.toList)
    (hr : ReadAs v.disks.toList ps) (sector count : Nat) (h : sector + count ≤ total ps) :
    v.readSectors sector count = .ok (slice (concat ps) (sector * 512) (count * 512)) := by
  unfold Vmdk.readSectors
  by_cases hcz : count = 0
  · rw [hcz, readSectorsLoop_zero, Nat.zero_mul, slice_zero]
  have := walk_concat _ ps 0 0 (segTiles_of_readAs _ _ 0 hc hr) (walks_vmdk v) (count + v.disks.size + 1) sector count
    (Nat.zero_le _) (by rw [Nat.zero_add]; exact h) (Nat.pos_of_ne_zero hcz) (by omega)
  rw [Nat.zero_add, Nat.sub_zero, ← List.map_tail, List.map_map] at this
  rw [diskOffsets_contiguous v hc]
  exact this

/-- the fold of `assemble` -/
def asmStep (acc : Array Vmdk.Disk × Nat × Nat) (f : Nat → Vmdk.Disk) : Array Vmdk.Disk × Nat × Nat :=
  (acc.1.push (f acc.2.1), acc.2.1 + (f acc.2.1).sectorCount, acc.2.2 + (f acc.2.1).size)

theorem assemble_eq (mk : List (Nat → Vmdk.Disk)) :
    assemble mk = ⟨(mk.foldl asmStep (#[], 0, 0)).1, (mk.foldl asmStep (#[], 0, 0)).2.2⟩ := rfl

theorem asmStep_foldl : ∀ (mk : List (Nat → Vmdk.Disk)) (arr : Array Vmdk.Disk) (sc sz : Nat),
    (mk.foldl asmStep (arr, sc, sz)).1.toList = arr.toList ++ place sc mk ∧
    (mk.foldl asmStep (arr, sc, sz)).2.2 = sz + ((place sc mk).map (·.size)).sum
  | [], arr, sc, sz => by simp [place]
  | f :: fs, arr, sc, sz => by
    have := asmStep_foldl fs (arr.push (f sc)) (sc + (f sc).sectorCount) (sz + (f sc).size)
    simp only [List.foldl_cons, asmStep, place, List.map_cons, List.sum_cons]
    rw [this.1, this.2]
    simp [Nat.add_assoc]

theorem assemble_disks (mk : List (Nat → Vmdk.Disk)) : (assemble mk).disks.toList = place 0 mk := by
  rw [assemble_eq]; simpa using (asmStep_foldl mk #[] 0 0).1

theorem assemble_size (mk : List (Nat → Vmdk.Disk)) :
    (assemble mk).size = ((assemble mk).disks.toList.map (·.size)).sum := by
  rw [assemble_disks, assemble_eq]; simpa using (asmStep_foldl mk #[] 0 0).2

theorem place_contiguous : ∀ (mk : List (Nat → Vmdk.Disk)) (start : Nat), (∀ f ∈ mk, GoodCtor f) →
    Contiguous start (place start mk)
  | [], _, _ => trivial
  | f :: fs, start, h => by
    have hf := h f (by simp) start
    exact ⟨hf.1, hf.2.1, hf.2.2, place_contiguous fs _ (fun g hg => h g (by simp [hg]))⟩

theorem contiguous_size : ∀ (ds : List Vmdk.Disk) (start : Nat), Contiguous start ds →
    (ds.map (·.size)).sum = sectorsOf ds * 512
  | [], _, _ => rfl
  | d :: ds, start, hc => by
    have := contiguous_size ds _ hc.2.2.2
    simp only [List.map_cons, List.sum_cons, this, hc.2.2.1, sectorsOf_cons, Nat.add_mul]

/-- flat extents: `RawDisk(fh, sectors * 512)` over a file that holds the extent -/
theorem rawDisk_good (fh : File) (n : Nat) (hn : 0 < n) : GoodCtor (rawDisk fh (some (n * 512))) := by
  intro off
  have hz : ¬ n * 512 = 0 := by omega
  have hS : Vmdk.S = 512 := rfl
  simp only [rawDisk, hz, if_false, hS]
  refine ⟨trivial, ?_, ?_⟩
  · show 0 < n * 512 / 512
    rw [Nat.mul_div_cancel _ (by decide)]; exact hn
  · show n * 512 = n * 512 / 512 * 512
    rw [Nat.mul_div_cancel _ (by decide)]

theorem rawDisk_reads (fh : File) (n off : Nat) (hn : 0 < n) (hsz : n * 512 ≤ fh.size) :
    DiskReads (rawDisk fh (some (n * 512)) off) ⟨n, fh.byte⟩ := by
  have hz : ¬ n * 512 = 0 := by omega
  have hS : Vmdk.S = 512 := rfl
  have hcnt : (rawDisk fh (some (n * 512)) off).sectorCount = n := by
    simp only [rawDisk, hz, if_false, hS]
    exact Nat.mul_div_cancel _ (by decide)
  have hoff : (rawDisk fh (some (n * 512)) off).sectorOffset = off := rfl
  refine ⟨hcnt, ?_⟩
  intro s c hlo hhi
  rw [hcnt, hoff] at hhi
  rw [hoff] at hlo
  have hnl : ¬ s < off := by omega
  have hfit : (s - off) * 512 + c * 512 ≤ fh.size := by
    rw [← Nat.add_mul]
    exact Nat.le_trans (Nat.mul_le_mul_right 512 hhi) hsz
  simp only [rawDisk, hnl, if_false, hS]
  rw [File.read_eq_slice hfit]

/-- the part list of a list of flat extents `(file, sectors)` -/
def flatParts (exts : List (File × Nat)) : List Part := exts.map (fun e => ⟨e.2, e.1.byte⟩)

/-- the constructors `VMDK.__init__` uses for FLAT / VMFS extents -/
def flatCtors (exts : List (File × Nat)) : List (Nat → Vmdk.Disk) :=
  exts.map (fun e => rawDisk e.1 (some (e.2 * 512)))

/-- the flat-only forms of `ext_readAs` / `ext_good` (ConcatSparse), over `flatParts` / `flatCtors`, so that C10's theorem
    about flat descriptors needs nothing of the sparse development -/
theorem flat_readAs : ∀ (exts : List (File × Nat)) (start : Nat),
    (∀ e ∈ exts, 0 < e.2 ∧ e.2 * 512 ≤ e.1.size) → ReadAs (place start (flatCtors exts)) (flatParts exts)
  | [], _, _ => trivial
  | e :: es, start, h => by
    have he := h e (by simp)
    exact ⟨rawDisk_reads e.1 e.2 start he.1 he.2, flat_readAs es _ (fun x hx => h x (by simp [hx]))⟩

theorem flat_good (exts : List (File × Nat)) (h : ∀ e ∈ exts, 0 < e.2 ∧ e.2 * 512 ≤ e.1.size) :
    ∀ f ∈ flatCtors exts, GoodCtor f := by
  intro f hf
  obtain ⟨e, he, rfl⟩ := List.mem_map.mp hf
  exact rawDisk_good e.1 e.2 (h e he).1

section
open Hv.Hdd

/-- the stable insertion sort leaves a tiling list as it is.  Stated for any step function `f` that inserts by `span`:
    the step of `sortByStart` is a `fun` with a destructuring `let`, which the induction would otherwise carry along;
    `sortByStart_tiles` puts it in by `rfl`. -/
theorem sort_foldl (f : List Storage → Storage → List Storage)
    (hf : ∀ acc s, f acc s = (acc.span (fun y => decide (y.start ≤ s.start))).1 ++ [s]
                              ++ (acc.span (fun y => decide (y.start ≤ s.start))).2) :
    ∀ (l : List Storage) (ps : List Part) (acc : List Storage) (start : Nat), Tiles start l ps →
      (∀ y ∈ acc, y.start ≤ start) → l.foldl f acc = acc ++ l
  | [], _, acc, _, _, _ => by simp
  | _ :: _, [], _, _, h, _ => by cases h
  | st :: sts, p :: ps, acc, start, h, hacc => by
    obtain ⟨h1, h2, h3, _, h5⟩ := h
    have hall : ∀ y ∈ acc, decide (y.start ≤ st.start) = true := by
      intro y hy; have := hacc y hy; simp only [decide_eq_true_eq]; omega
    have hstep : f acc st = acc ++ [st] := by rw [hf, span_all _ _ hall]; simp
    rw [List.foldl_cons, hstep, sort_foldl f hf sts ps (acc ++ [st]) st.end_ h5]
    · simp
    · intro y hy
      rcases List.mem_append.mp hy with hy | hy
      · have := hacc y hy; omega
      · simp only [List.mem_singleton] at hy; subst hy; omega

theorem sortByStart_tiles (l : List Storage) (ps : List Part) (start : Nat) (h : Tiles start l ps) :
    sortByStart l = l := by
  unfold sortByStart
  have := sort_foldl _ (fun acc s => rfl) l ps [] start h (by simp)
  simpa using this

theorem tiles_getLast : ∀ (l : List Storage) (ps : List Part) (start : Nat), Tiles start l ps →
    (match l.getLast? with | some s => s.end_ | none => start) = start + total ps
  | [], [], _, _ => rfl
  | [], _ :: _, _, h => by cases h
  | _ :: _, [], _, h => by cases h
  | st :: sts, p :: ps, start, h => by
    obtain ⟨_, _, h3, _, h5⟩ := h
    have ih := tiles_getLast sts ps _ h5
    show _ = start + (p.sectors + total ps)
    rw [← Nat.add_assoc, ← h3, List.getLast?_cons]
    cases hl : sts.getLast? with
    | none => rw [hl] at ih; simpa using ih
    | some x => rw [hl] at ih; simpa using ih

theorem mk_tiles (l : List Storage) (ps : List Part) (h : Tiles 0 l ps) :
    mk l = ⟨l.toArray, total ps * 512⟩ := by
  unfold mk
  simp only [sortByStart_tiles l ps 0 h]
  congr 1
  have h1 := tiles_getLast l ps 0 h
  cases hl : l.getLast? with
  | none => rw [hl] at h1; simp only at h1 ⊢; omega
  | some x => rw [hl] at h1; simp only at h1 ⊢; omega

/-- a storage as a segment: its stream is addressed in bytes relative to the storage's start -/
def storageSeg (st : Storage) : Seg := ⟨st.start, st.end_, fun s c => st.stream ((s - st.start) * 512) (c * 512)⟩

theorem storageLoop_zero (v : StorageStream) (fuel sector idx : Nat) : v.loop fuel sector 0 idx = .ok [] := by
  cases fuel <;> simp [StorageStream.loop]

theorem walks_hdd (v : StorageStream) : Walks v.loop 0 (v.streams.toList.map storageSeg) where
  zero := storageLoop_zero v
  step := fun fuel s c idx x hx hc hlo hhi => by
    rw [List.getElem?_map] at hx
    obtain ⟨st, hst, rfl⟩ := Option.map_eq_some_iff.mp hx
    have hget : v.streams[idx]? = some st := by simpa using hst
    have hcz : ¬ c = 0 := by omega
    have h1 : ¬ st.end_ ≤ s := Nat.not_le_of_lt hhi
    have h2 : ¬ s < st.start := Nat.not_lt_of_le hlo
    rw [Nat.zero_add, StorageStream.loop]
    simp only [hcz, if_false, hget, h1, h2]
    rfl

theorem segTiles_of_tiles : ∀ (l : List Storage) (ps : List Part) (start : Nat), Tiles start l ps →
    SegTiles start (l.map storageSeg) ps
  | [], [], _, _ => trivial
  | [], _ :: _, _, h => by cases h
  | _ :: _, [], _, h => by cases h
  | st :: sts, p :: ps, start, h => by
    obtain ⟨h1, h2, h3, h4, h5⟩ := h
    refine ⟨h1, h2, h3, fun s c hlo hhi => ?_, segTiles_of_tiles sts ps _ h5⟩
    have hhi : s + c ≤ st.end_ := hhi
    show st.stream ((s - st.start) * 512) (c * 512) = _
    rw [h1, h4 _ _ (by rw [← Nat.add_mul]; exact Nat.mul_le_mul_right 512 (by omega))]

theorem storage_read_concat (l : List Storage) (ps : List Part) (hne : l ≠ []) (ht : Tiles 0 l ps)
    (offset length : Nat) (ha : offset % 512 = 0) (hin : offset + length ≤ total ps * 512) :
    (mk l).read offset length = .ok (slice (concat ps) offset ((length + 511) / 512 * 512)) := by
  rw [mk_tiles l ps ht]
  unfold StorageStream.read
  have hoffs : offset / 512 * 512 = offset := by omega
  cases hl : l with
  | nil => exact absurd hl hne
  | cons st sts =>
    have ht' : Tiles 0 (st :: sts) ps := hl ▸ ht
    have hseg := segTiles_of_tiles _ ps 0 ht'
    have h0 : st.start = 0 := by
      cases ps with
      | nil => cases ht'
      | cons _ _ => exact ht'.1
    have hk : Hdd.bisectRight ((st :: sts).map (·.start)) (offset / 512)
        = ((sts.map (·.start)).takeWhile (· ≤ offset / 512)).length + 1 := by
      simp [Hdd.bisectRight, h0]
    simp only [hk, Nat.add_sub_cancel, Nat.succ_ne_zero, if_false]
    show StorageStream.loop _ ((length + 511) / 512 + 1) (offset / 512) ((length + 511) / 512) _ = _
    by_cases hcz : (length + 511) / 512 = 0
    · rw [hcz, storageLoop_zero, Nat.zero_mul, slice_zero]
    have := walk_concat _ ps 0 0 hseg (walks_hdd ⟨(st :: sts).toArray, total ps * 512⟩)
      ((length + 511) / 512 + 1) (offset / 512) ((length + 511) / 512) (Nat.zero_le _) (by omega)
      (Nat.pos_of_ne_zero hcz) (Nat.lt_succ_self _)
    rw [Nat.zero_add, Nat.sub_zero, hoffs, ← List.map_tail, List.map_map] at this
    exact this

theorem contiguousb_sound : ∀ (ds : List Vmdk.Disk) (start : Nat), contiguousb start ds = true → Contiguous start ds
  | [], _, _ => trivial
  | d :: ds, start, h => by
    simp only [contiguousb, Bool.and_eq_true, decide_eq_true_eq] at h
    obtain ⟨⟨⟨h1, h2⟩, h3⟩, h4⟩ := h
    exact ⟨h1, h2, h3, contiguousb_sound ds _ h4⟩

theorem tilesb_sound : ∀ (l : List Hdd.Storage) (ps : List Part) (start : Nat),
    tilesb start l ps = true → StreamsRead l ps → Tiles start l ps
  | [], [], _, _, _ => trivial
  | [], _ :: _, _, h, _ => by simp [tilesb] at h
  | _ :: _, [], _, h, _ => by simp [tilesb] at h
  | st :: sts, p :: ps, start, h, hr => by
    simp only [tilesb, Bool.and_eq_true, decide_eq_true_eq] at h
    obtain ⟨⟨⟨h1, h2⟩, h3⟩, h4⟩ := h
    exact ⟨h1, h2, h3, hr.1, tilesb_sound sts ps _ h4 hr.2⟩

end

end Hv.Concat
