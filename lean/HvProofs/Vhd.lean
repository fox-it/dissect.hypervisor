import Hv.Vhd
import HvProofs.BlockLoop
import HvProofs.Stream
namespace Hv.Vhd
open Hv Hv.Extracted.vhd

theorem S_eq : S = 512 := rfl
theorem ENTRY_eq : BAT_ENTRY_SIZE = 4 := rfl

variable (v : Vhd)

theorem readSectorsDyn_zero (fuel s : Nat) : v.readSectorsDyn fuel s 0 = .ok [] := by
  cases fuel <;> simp [Vhd.readSectorsDyn]

theorem readSectorsDyn_succ (fuel sector : Nat) {count n : Nat} (hc : count ≠ 0) (hs : v.spb ≠ 0)
    (hn : min count (v.spb - sector % v.spb) = n) :
    v.readSectorsDyn (fuel + 1) sector count =
      (do let so ← v.bat (sector / v.spb)
          let rest ← v.readSectorsDyn fuel (sector + n) (count - n)
          .ok (v.chunk so (sector % v.spb) n ++ rest)) := by
  subst hn
  rw [Vhd.readSectorsDyn, if_neg hc, if_neg hs]

def piece (v : Vhd) (sector n : Nat) : Except Err Bytes := do
  let so ← v.bat (sector / v.spb)
  .ok (v.chunk so (sector % v.spb) n)

theorem readSectorsDyn_eq (hs : v.spb ≠ 0) : ∀ fuel sector count,
    v.readSectorsDyn fuel sector count = blockLoop v.spb (piece v) fuel sector count := by
  intro fuel
  induction fuel with
  | zero => intro sector count; rfl
  | succ fuel ih =>
    intro sector count
    by_cases hc : count = 0
    · subst hc; rw [readSectorsDyn_zero, blockLoop_zero]
    · rw [readSectorsDyn_succ v _ _ hc hs rfl, blockLoop_succ _ _ hc rfl, ih, piece]
      cases v.bat (sector / v.spb) <;> rfl

/-- for block sizes that are a multiple of 8 sectors the code's bitmap size is the
    specification's (one bit per sector, padded to a whole sector) -/
theorem bitmapSectors_eq_spec (h : v.blockSize % (8 * 512) = 0) :
    v.bitmapSectors = v.bitmapSectorsSpec := by
  have h8 : v.blockSize / 512 / 8 = (v.blockSize / 512 + 7) / 8 := by omega
  unfold Vhd.bitmapSectors Vhd.bitmapSectorsSpec Vhd.spb
  simp only [S_eq, h8]

theorem bat_ok (hwf : WF v) (hd : v.kind = .dynamic) (i : Nat) (hi : i < v.maxEntries) :
    v.bat i = .ok (if v.batRaw i = 0xFFFFFFFF then none else some (v.batRaw i)) := by
  have ht := hwf.table_in hd
  have hr : v.fh.read (v.tableOffset + i * 4) 4 = slice v.fh.byte (v.tableOffset + 4 * i) 4 := by
    rw [File.read_eq_slice (by omega), Nat.mul_comm i 4]
  rw [Vhd.bat, if_neg (by omega)]
  simp only [ENTRY_eq, hr, slice_length, ne_eq, not_true_eq_false, if_false]
  -- what is left is `batRaw`: the big-endian value of these four bytes
  rw [Vhd.batRaw]

theorem chunk_entry (e offset n : Nat) :
    v.chunk (if e = 0xFFFFFFFF then none else some e) offset n =
      if e = 0xFFFFFFFF ∨ e = 0 then zeros (512 * n)
      else v.fh.read ((e + v.bitmapSectors + offset) * 512) (n * 512) := by
  by_cases h1 : e = 0xFFFFFFFF
  · rw [if_pos h1, if_pos (Or.inl h1)]; rfl
  · rw [if_neg h1]
    by_cases h0 : e = 0
    · rw [if_pos (Or.inr h0), Vhd.chunk, if_pos h0]; rfl
    · rw [if_neg (by omega), Vhd.chunk, if_neg h0]; rfl

theorem guest_dynamic (hd : v.kind = .dynamic) (o : Nat) :
    v.guest o = if v.batRaw (o / v.blockSize) = 0xFFFFFFFF ∨ v.batRaw (o / v.blockSize) = 0 then 0
      else v.fh.byte ((v.batRaw (o / v.blockSize) + v.bitmapSectorsSpec) * 512 + o % v.blockSize) := by
  simp only [Vhd.guest, hd]

theorem spb_mul (hwf : WF v) (hd : v.kind = .dynamic) : v.spb * 512 = v.blockSize := by
  have := (hwf.bs_sector hd).2
  unfold Vhd.spb; simp only [S_eq]; omega

theorem piece_correct (hwf : WF v) (hd : v.kind = .dynamic) (s n : Nat) (_ : 0 < n)
    (hn : s % v.spb + n ≤ v.spb) (hin : s + n ≤ v.maxEntries * v.spb) :
    piece v s n = .ok (slice v.guest (s * 512) (n * 512)) := by
  obtain ⟨hbs, hbm⟩ := hwf.bs_sector hd
  have hspb := spb_mul v hwf hd
  have hblk : s / v.spb < v.maxEntries := Nat.div_lt_of_lt_mul (by rw [Nat.mul_comm]; omega)
  have hdiv : s * 512 / v.blockSize = s / v.spb := by rw [← hspb, Nat.mul_div_mul_right _ _ (by decide)]
  have hmod : s * 512 % v.blockSize = s % v.spb * 512 := by rw [← hspb, Nat.mul_mod_mul_right]
  have hfit : s * 512 % v.blockSize + n * 512 ≤ v.blockSize := by
    rw [hmod, ← hspb, ← Nat.add_mul]; exact Nat.mul_le_mul_right _ hn
  have hg := fun o (ho : o / v.blockSize = s * 512 / v.blockSize) => by
    have := guest_dynamic v hd o
    rwa [ho, hdiv] at this
  have hent := hwf.entries hd _ hblk
  rw [piece, bat_ok v hwf hd _ hblk]
  show Except.ok _ = _
  rw [chunk_entry]
  congr 1
  generalize v.batRaw (s / v.spb) = e at hg hent
  by_cases hz : e = 0xFFFFFFFF ∨ e = 0
  · rw [if_pos hz, Nat.mul_comm]
    exact slice_unit_zero hbs hfit fun o ho => by rw [hg o ho, if_pos hz]
  · have hfile : (e + v.bitmapSectorsSpec) * 512 + v.blockSize ≤ v.fh.size := by
      rcases hent with h | h | h
      · exact absurd (Or.inl h) hz
      · exact absurd (Or.inr h) hz
      · exact h
    have hpos : (e + v.bitmapSectors + s % v.spb) * 512 = (e + v.bitmapSectorsSpec) * 512 + s * 512 % v.blockSize := by
      rw [hmod, bitmapSectors_eq_spec v hbm, Nat.add_mul _ (s % v.spb)]
    have hrd : (e + v.bitmapSectorsSpec) * 512 + s * 512 % v.blockSize + n * 512 ≤ v.fh.size := by
      rw [Nat.add_assoc]; exact Nat.le_trans (Nat.add_le_add_left hfit _) hfile
    rw [if_neg hz, hpos, File.read_eq_slice hrd]
    exact slice_unit_file _ hbs hfit fun o ho => by rw [hg o ho, if_neg hz]

theorem readSectorsDyn_correct (hwf : WF v) (hd : v.kind = .dynamic) :
    ∀ fuel sector count, count ≤ fuel → sector + count ≤ v.maxEntries * v.spb →
      v.readSectorsDyn fuel sector count = .ok (slice v.guest (sector * 512) (count * 512)) := by
  have hspb : 0 < v.spb := by
    have := spb_mul v hwf hd
    have := (hwf.bs_sector hd).1
    omega
  intro fuel sector count hf hb
  rw [readSectorsDyn_eq v (by omega)]
  exact blockLoop_correct v.guest 512 _ hspb (piece_correct v hwf hd) fuel sector count hf hb

theorem read_covers (hwf : WF v) (off len : Nat) (ho : off % 512 = 0) :
    Covers (v.read off len) v.guest v.size 512 off len := by
  unfold Vhd.read Vhd.readSectors
  simp only [S_eq]
  cases hk : v.kind with
  | fixed =>
    -- the file is read directly, whole sectors of it as far as it goes
    have hin := hwf.fixed_in hk
    have hg : v.guest = v.fh.byte := by funext o; simp only [Vhd.guest, hk]
    refine ⟨min ((min len (v.size - off) + 512 - 1) / 512 * 512) (v.fh.size - off), ?_,
      Nat.le_min.mpr ⟨le_roundUp _ (by decide), ?_⟩, fun hl hle => ?_⟩
    · rw [Nat.div_mul_cancel (Nat.dvd_of_mod_eq_zero ho), hg]; rfl
    · exact Nat.le_trans (Nat.min_le_right _ _) (Nat.sub_le_sub_right hin off)
    · rw [clamp_eq hle, roundUp_of_mod (by decide) hl, clamp_eq (Nat.le_trans hle hin)]
  | dynamic =>
    have hcov : v.size ≤ v.maxEntries * v.spb * 512 := by
      rw [Nat.mul_assoc, spb_mul v hwf hk]; exact hwf.covers hk
    exact sector_covers (rs := fun s c => v.readSectorsDyn c s c) (by decide) hcov
      (fun s c h => h.elim (fun hc => by rw [hc, readSectorsDyn_zero, Nat.zero_mul, slice_zero])
        (readSectorsDyn_correct v hwf hk c s c (Nat.le_refl _))) off len ho

theorem bat_progress (block : Nat) : v.bat block ≠ .error .nonTermination :=
  ite_ne_error nofun (ite_ne_error nofun nofun)

theorem read_progress (off len : Nat) : v.read off len ≠ .error .nonTermination := by
  unfold Vhd.read Vhd.readSectors
  cases v.kind with
  | fixed => nofun
  | dynamic =>
    simp only
    by_cases hs : v.spb = 0
    · -- division by zero at the first pass, if there is one
      generalize (min len (v.size - off) + S - 1) / S = count
      cases count with
      | zero => rw [readSectorsDyn_zero]; nofun
      | succ c => rw [Vhd.readSectorsDyn, if_neg (by omega), if_pos hs]; nofun
    · rw [readSectorsDyn_eq v hs]
      exact blockLoop_progress (piece := piece v) (Nat.pos_of_ne_zero hs)
        (fun s n => bind_ne_error (bat_progress v _) fun _ _ => nofun) _ _ _ (Nat.le_refl _)

end Hv.Vhd
