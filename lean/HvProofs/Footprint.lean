/-
  The I/O clause of C13 for VDI, VHD, HDS and VHDX: the readers and the constructors depend on the file only through its
  size and the bytes named by `Hv.Footprint.*`.  Per reader: the chunk of unit `i` looks only at the ranges listed for unit
  `i` (`*_chunk_congr`), whose total length is bounded by the request's part in the unit (`*Unit_total`); a loop over `At`
  (`blockLoop_units`).  HDS coalesces chunks into runs first: every non-sparse run lies within the footprint
  (`hds_chunk_within`, `hds_iterRuns_within`) and the run reader looks only at its runs (`hds_execRuns_congr`).
-/
import HvProofs.FootprintBasic
import HvProofs.Vdi
import HvProofs.Vhd
import HvProofs.Hds
import HvProofs.Vhdx
import HvProofs.Layers
namespace Hv.Footprint
open Hv

section vdi
open Hv.Vdi

theorem vdiUnit_fh (v : Vdi) (f' : File) : vdiUnit { v with fh := f' } = vdiUnit v := rfl
theorem vdi_fh (v : Vdi) (f' : File) : vdi { v with fh := f' } = vdi v := rfl

theorem vdi_chunk_congr (v : Vdi) (f' : File) (off0 len0 i off : Nat) (b : Int) (hs : v.fh.size = f'.size)
    (hget : v.map[i]? = some b) (h : Agree (vdiUnit v off0 len0 i) v.fh f') :
    chunk v b (partIn v.blockSize off0 len0 i).1 off (partIn v.blockSize off0 len0 i).2
      = chunk { v with fh := f' } b (partIn v.blockSize off0 len0 i).1 off (partIn v.blockSize off0 len0 i).2 := by
  unfold vdiUnit at h
  rw [hget] at h
  generalize partIn v.blockSize off0 len0 i = p at h ⊢
  unfold chunk
  refine ite_congr rfl (fun _ => rfl) fun h1 => ite_congr rfl (fun _ => rfl) fun h2 =>
    ite_congr rfl (fun _ => rfl) fun h3 => ?_
  have h12 : ¬ (b = -1 ∨ b = -2) := not_or.2 ⟨h1, h2⟩
  dsimp only at h
  rw [if_neg h12, if_neg h3] at h
  exact congrArg _ (File.read_congr hs h.head)

theorem vdi_read_footprint (v : Vdi) (f' : File) (off len : Nat) (hag : AgreeOn (vdi v off len) v.fh f') :
    Vdi.read v off len = Vdi.read { v with fh := f' } off len := by
  unfold Vdi.read
  by_cases hbs : v.blockSize = 0
  · rw [if_pos hbs, if_pos hbs]
  have hpos : 0 < v.blockSize := by omega
  rw [if_neg hbs, if_neg hbs, readLoop_eq v hpos, readLoop_eq { v with fh := f' } hpos]
  refine blockLoop_units hpos hag.agree (fun s n hunit hpart => ?_) _
  unfold piece
  cases hget : v.map[s / v.blockSize]? with
  | none => rfl
  | some b =>
    have hchunk := vdi_chunk_congr v f' off _ _ s b hag.size hget hunit
    rwa [hpart] at hchunk

theorem vdiUnit_total (v : Vdi) (off len i : Nat) : total (vdiUnit v off len i) ≤ (partIn v.blockSize off len i).2 := by
  unfold vdiUnit
  split
  · simp [total]
  · split
    · simp [total]
    · simp only
      split <;> simp [total]

theorem vdiUnit_inside (v : Vdi) (off len i : Nat) (hbs : 0 < v.blockSize) (hlo : off / v.blockSize ≤ i)
    (r : Nat × Nat) (hri : r ∈ vdiUnit v off len i) :
    ∃ b, v.map[i]? = some b ∧ b ≠ -1 ∧ b ≠ -2 ∧ (v.dataOffset : Int) + b * (v.blockSize : Int) ≤ (r.1 : Int) ∧
      (r.1 : Int) + (r.2 : Int) ≤ (v.dataOffset : Int) + (b + 1) * (v.blockSize : Int) := by
  have hin := partIn_inside v.blockSize off len i hbs hlo
  unfold vdiUnit at hri
  generalize partIn v.blockSize off len i = p at hin hri
  split at hri
  · cases hri
  rename_i b hget
  split at hri
  · cases hri
  rename_i hb
  dsimp only at hri
  split at hri
  · cases hri
  cases List.mem_singleton.1 hri
  refine ⟨b, hget, fun h => hb (.inl h), fun h => hb (.inr h), ?_, ?_⟩
  · dsimp only
    omega
  · dsimp only
    rw [Int.add_mul, Int.one_mul]
    omega

end vdi

section vhd
open Hv.Vhd Hv.Extracted.vhd

theorem vhd_bat_some (v : Vhd) (block s : Nat) (h : v.bat block = .ok (some s)) :
    block < v.maxEntries ∧ v.batRaw block = s ∧ s ≠ 0xFFFFFFFF := by
  unfold Vhd.bat at h
  obtain ⟨hb, h⟩ := ok_of_gate h
  obtain ⟨hl, h⟩ := ok_of_gate h
  have hraw : v.fh.read (v.tableOffset + block * BAT_ENTRY_SIZE) BAT_ENTRY_SIZE
      = slice v.fh.byte (v.tableOffset + 4 * block) 4 := by
    unfold File.read at hl ⊢
    rw [slice_length, Decidable.not_not] at hl
    rw [hl, ENTRY_eq, Nat.mul_comm]
  rw [hraw] at h
  dsimp only at h
  by_cases he : beNat (slice v.fh.byte (v.tableOffset + 4 * block) 4) = 0xFFFFFFFF
  · rw [if_pos he] at h
    cases h
  · rw [if_neg he] at h
    cases h
    exact ⟨by omega, rfl, he⟩

theorem vhd_bat_congr (v : Vhd) (f' : File) (s0 c0 i : Nat) (hs : v.fh.size = f'.size)
    (h : Agree (vhdUnit v s0 c0 i) v.fh f') : v.bat i = ({ v with fh := f' } : Vhd).bat i := by
  unfold Vhd.bat
  by_cases hb : i + 1 > v.maxEntries
  · rw [if_pos hb, if_pos hb]
  · unfold vhdUnit at h
    rw [if_neg (by omega)] at h
    rw [if_neg hb, if_neg hb, File.read_congr hs h.head]

theorem vhd_chunk_congr (v : Vhd) (f' : File) (s0 c0 i : Nat) (so : Option Nat) (hs : v.fh.size = f'.size)
    (hbat : v.bat i = .ok so) (h : Agree (vhdUnit v s0 c0 i) v.fh f') :
    v.chunk so (partIn v.spb s0 c0 i).1 (partIn v.spb s0 c0 i).2
      = ({ v with fh := f' } : Vhd).chunk so (partIn v.spb s0 c0 i).1 (partIn v.spb s0 c0 i).2 := by
  cases so with
  | none => rfl
  | some s =>
    obtain ⟨hlt, hraw, hne⟩ := vhd_bat_some v i s hbat
    unfold vhdUnit at h
    rw [if_neg (by omega)] at h
    dsimp only at h
    unfold Vhd.chunk
    dsimp only
    by_cases hz : s = 0
    · rw [if_pos hz, if_pos hz]
    · rw [hraw, if_neg (by omega)] at h
      rw [if_neg hz, if_neg hz]
      exact File.read_congr hs h.tail.head

theorem vhd_loop_congr (v : Vhd) (f' : File) (s0 c0 : Nat)
    (hag : AgreeOn ((unitsTouched v.spb s0 c0).flatMap (vhdUnit v s0 c0)) v.fh f') (fuel : Nat) :
    v.readSectorsDyn fuel s0 c0 = ({ v with fh := f' } : Vhd).readSectorsDyn fuel s0 c0 := by
  have hspb' : ({ v with fh := f' } : Vhd).spb = v.spb := rfl
  by_cases hspb : v.spb = 0
  · cases fuel <;> simp [Vhd.readSectorsDyn, hspb', hspb]
  have hpos : 0 < v.spb := by omega
  rw [readSectorsDyn_eq v hspb, readSectorsDyn_eq { v with fh := f' } hspb]
  refine blockLoop_units hpos hag.agree (fun s n hunit hpart => ?_) _
  unfold piece
  rw [hspb', ← vhd_bat_congr v f' _ _ _ hag.size hunit]
  refine bind_congr_ok fun so hso => ?_
  have hchunk := vhd_chunk_congr v f' _ _ _ so hag.size hso hunit
  rw [hpart] at hchunk
  exact congrArg _ hchunk

theorem vhd_read_footprint (v : Vhd) (f' : File) (off len : Nat) (hag : AgreeOn (vhd v off len) v.fh f') :
    v.read off len = ({ v with fh := f' } : Vhd).read off len := by
  -- `v` is taken apart first: `cases kind` then also decides the `kind` of `{ v with fh := f' }`, so both reads reduce
  obtain ⟨fh, kind, size, tbl, me, bs⟩ := v
  unfold Vhd.read Vhd.readSectors
  unfold vhd at hag
  cases kind with
  | fixed => exact congrArg _ (File.read_congr hag.size (hag.agree.head))
  | dynamic => exact vhd_loop_congr ⟨fh, .dynamic, size, tbl, me, bs⟩ f' _ _ hag _

theorem vhdUnit_total (v : Vhd) (sector count i : Nat) :
    total (vhdUnit v sector count i) ≤ (partIn v.spb sector count i).2 * S + 4 := by
  unfold vhdUnit
  split
  · simp [total]
  · rw [total_cons]
    simp only
    split
    · simp [total, ENTRY_eq]
    · simp [total, ENTRY_eq]; omega

theorem vhdUnit_inside (v : Vhd) (sector count i : Nat) (hspb : 0 < v.spb) (hlo : sector / v.spb ≤ i)
    (r : Nat × Nat) (hri : r ∈ vhdUnit v sector count i) :
    i < v.maxEntries ∧ (r = (v.tableOffset + i * 4, 4) ∨
      (v.batRaw i ≠ 0xFFFFFFFF ∧ v.batRaw i ≠ 0 ∧ (v.batRaw i + v.bitmapSectors) * S ≤ r.1 ∧
        r.1 + r.2 ≤ (v.batRaw i + v.bitmapSectors + v.spb) * S)) := by
  unfold vhdUnit at hri
  by_cases hme : v.maxEntries ≤ i
  · simp [hme] at hri
  · simp only [hme, if_false, List.mem_cons] at hri
    refine ⟨by omega, ?_⟩
    rcases hri with hri | hri
    · left; rw [hri, ENTRY_eq]
    · right
      by_cases hm : v.batRaw i = 0xFFFFFFFF ∨ v.batRaw i = 0
      · simp [hm] at hri
      · simp only [hm, if_false, List.mem_singleton] at hri
        have hin := partIn_inside v.spb sector count i hspb hlo
        generalize partIn v.spb sector count i = p at *
        subst hri
        refine ⟨fun h => hm (Or.inl h), fun h => hm (Or.inr h), ?_, ?_⟩
        · exact Nat.mul_le_mul_right _ (by omega)
        · show (v.batRaw i + v.bitmapSectors + p.1) * S + p.2 * S ≤ _
          rw [← Nat.add_mul]
          exact Nat.mul_le_mul_right _ (by omega)

end vhd

section hds
open Hv.Hds Hv.Extracted.hdd

theorem hds_iterRuns_fh (v : Hds) (f' : File) : ∀ fuel o l cur,
    ({ v with fh := f' } : Hds).iterRuns fuel o l cur = v.iterRuns fuel o l cur := by
  intro fuel
  induction fuel with
  | zero => intro o l cur; rfl
  | succ fuel ih =>
    intro o l cur
    unfold Hds.iterRuns
    simp only [ih]
    rfl

theorem hds_chunk_within (v : Hds) (off0 len0 offset length ro : Nat) (h : At v.clusterSize off0 len0 offset length)
    (hcs : 0 < v.clusterSize) (hl : length ≠ 0) (hsz : offset < v.size) (hro : v.readOffset offset = .ok ro)
    (hne : ro ≠ 0) : Within (hds v off0 len0) ro (min length (v.clusterSize - offset % v.clusterSize)) := by
  refine Within.unit (h.mem hl) (Within.of_mem ?_)
  have hle : offset / v.clusterSize * v.clusterSize ≤ offset := Nat.div_mul_le_self ..
  unfold hdsUnit
  rw [if_neg (by have := h.lo; omega), h.part hcs hl]
  unfold Hds.readOffset at hro
  cases hget : v.bat[offset / v.clusterSize]? with
  | none => rw [hget] at hro; cases hro
  | some e =>
    rw [hget] at hro
    cases hro
    by_cases hez : e = 0
    · rw [if_pos hez] at hne
      exact absurd rfl hne
    · dsimp only
      rw [if_neg hez, if_neg hez]
      exact List.mem_singleton.2 rfl

/-- every non-sparse run the coalescer produces lies inside the footprint: a run is a sequence of adjacent chunks -/
theorem hds_iterRuns_within (v : Hds) (off0 len0 : Nat) :
    ∀ fuel offset length cur runs, At v.clusterSize off0 len0 offset length →
      (∀ r ∈ flush cur, r.1 ≠ 0 → Within (hds v off0 len0) r.1 r.2) →
      v.iterRuns fuel offset length cur = .ok runs →
      ∀ r ∈ runs, r.1 ≠ 0 → Within (hds v off0 len0) r.1 r.2 := by
  intro fuel
  induction fuel with
  | zero =>
    intro offset length cur runs _ hcur hr
    by_cases hc : offset < v.size ∧ length > 0
    · rw [Hds.iterRuns, if_pos hc] at hr
      cases hr
    · rw [iterRuns_done v 0 hc] at hr
      cases hr
      exact hcur
  | succ fuel ih =>
    intro offset length cur runs h hcur hr
    by_cases hc : offset < v.size ∧ length > 0
    · by_cases hcs : v.clusterSize = 0
      · rw [Hds.iterRuns, if_pos hc, if_pos hcs] at hr
        cases hr
      have hpos : 0 < v.clusterSize := by omega
      rw [iterRuns_succ v fuel hc hcs rfl] at hr
      obtain ⟨ro, hro, hr⟩ := bind_ok hr
      have hchunk := hds_chunk_within v off0 len0 offset length ro h hpos (by omega) hc.1 hro
      have hn := h.next hpos
      generalize min length (v.clusterSize - offset % v.clusterSize) = n at hr hchunk hn
      have hnew : ∀ r ∈ flush (some (ro, n)), r.1 ≠ 0 → Within (hds v off0 len0) r.1 r.2 := fun r hr' => by
        cases List.mem_singleton.1 hr'
        exact hchunk
      cases cur with
      | none => exact ih _ _ _ runs hn hnew hr
      | some c =>
        have hc' := hcur c (List.mem_singleton.2 rfl)
        obtain ⟨runOff, runSize⟩ := c
        dsimp only at hr
        split at hr
        · rename_i hm
          refine ih _ _ _ runs hn (fun r hr' hne => ?_) hr
          cases List.mem_singleton.1 hr'
          rcases hm with ⟨_, hm2⟩ | ⟨hm1, _⟩
          · exact (hc' hne).append (hm2 ▸ hchunk (by omega))
          · exact absurd hm1 hne
        · obtain ⟨rest, hrest, hr⟩ := bind_ok hr
          cases hr
          intro r hr'
          rcases List.mem_cons.1 hr' with rfl | hr'
          · exact hc'
          · exact ih _ _ _ rest hn hnew hrest r hr'
    · rw [iterRuns_done v _ hc] at hr
      cases hr
      exact hcur

theorem hds_execRuns_congr (v : Hds) (f' : File) (hs : v.fh.size = f'.size) :
    ∀ runs off, (∀ r ∈ runs, r.1 ≠ 0 → EqOn r.1 r.2 v.fh f') →
      v.execRuns off runs = ({ v with fh := f' } : Hds).execRuns off runs := by
  intro runs
  induction runs with
  | nil => intro off _; rfl
  | cons r rest ih =>
    intro off h
    unfold Hds.execRuns
    have hd : v.runData off r = ({ v with fh := f' } : Hds).runData off r := by
      unfold Hds.runData
      by_cases hz : r.1 = 0
      · rw [if_pos hz, if_pos hz]
      · rw [if_neg hz, if_neg hz]
        exact congrArg _ (File.read_congr hs (h r (List.mem_cons_self ..) hz))
    rw [hd, ih (off + r.2) (fun r' hr' => h r' (List.mem_cons_of_mem _ hr'))]

theorem hds_read_footprint (v : Hds) (f' : File) (off len : Nat) (hag : AgreeOn (hds v off len) v.fh f') :
    v.read off len = ({ v with fh := f' } : Hds).read off len := by
  unfold Hds.read
  rw [hds_iterRuns_fh v f']
  refine bind_congr_ok fun runs hr => hds_execRuns_congr v f' hag.size runs off fun r hrm hne => hag.agree.within ?_
  exact hds_iterRuns_within v off len len off len none runs (At.start ..) nofun hr r hrm hne

theorem hdsUnit_total (v : Hds) (off len i : Nat) :
    total (hdsUnit v off len i) ≤ (partIn v.clusterSize off len i).2 := by
  unfold hdsUnit
  split
  · simp [total]
  · split
    · simp [total]
    · split <;> simp [total]

theorem hdsUnit_inside (v : Hds) (off len i : Nat) (hcs : 0 < v.clusterSize) (hlo : off / v.clusterSize ≤ i)
    (r : Nat × Nat) (hri : r ∈ hdsUnit v off len i) :
    ∃ e, i * v.clusterSize < v.size ∧ v.bat[i]? = some e ∧ e ≠ 0 ∧
      e * v.mult * 512 ≤ r.1 ∧ r.1 + r.2 ≤ e * v.mult * 512 + v.clusterSize := by
  unfold hdsUnit at hri
  by_cases hsz : v.size ≤ max off (i * v.clusterSize)
  · simp [hsz] at hri
  · simp only [hsz, if_false] at hri
    cases hget : v.bat[i]? with
    | none => simp [hget] at hri
    | some e =>
      simp only [hget] at hri
      by_cases hez : e = 0
      · simp [hez] at hri
      · simp only [hez, if_false, List.mem_singleton] at hri
        have hin := partIn_inside v.clusterSize off len i hcs hlo
        generalize partIn v.clusterSize off len i = p at *
        subst hri
        refine ⟨e, by omega, rfl, hez, ?_, ?_⟩
        · simp only [SS_eq]; omega
        · simp only [SS_eq]; omega

end hds

section opens

open Hv.Extracted.vdi in
theorem vdi_open_footprint (f f' : File) (par : Option Vdi.Reader) (hag : AgreeOn (vdiOpen f) f f') :
    Vdi.open f' par = (Vdi.open f par).map (fun v => { v with fh := f' }) := by
  have hh : EqOn 0 HeaderDescriptor.size f f' := hag.agree.head
  have hf := fun fld => File.field_congr hag.size hh fld
  unfold Vdi.open
  refine bind_map_congr (hf _ (by decide)) fun sig _ => ite_map_congr (fun _ => rfl) fun _ => ?_
  refine bind_map_congr (hf _ (by decide)) fun bo hbo => ?_
  refine bind_map_congr (hf _ (by decide)) fun n hn => ?_
  have hmap : f.read bo (4 * n) = f'.read bo (4 * n) := by
    dsimp only [vdiOpen] at hag
    rw [hbo, hn] at hag
    exact File.read_congr hag.size (Agree.head (hag.agree.tail))
  dsimp only
  rw [← hmap]
  refine ite_map_congr (fun _ => rfl) fun _ => ?_
  refine bind_map_congr (hf _ (by decide)) fun _ _ => ?_
  refine bind_map_congr (hf _ (by decide)) fun _ _ => ?_
  refine bind_map_congr (hf _ (by decide)) fun _ _ => ?_
  exact bind_map_congr (hf _ (by decide)) fun _ _ => rfl

open Hv.Extracted.hdd in
theorem hds_open_footprint (f f' : File) (par : Option Hds.Reader) (hag : AgreeOn (hdsOpen f) f f') :
    Hds.open f' par = (Hds.open f par).map (fun v => { v with fh := f' }) := by
  have hh : EqOn 0 pvd_header.size f f' := hag.agree.head
  have hf := fun fld => File.field_congr hag.size hh fld
  unfold Hds.open
  refine bind_map_congr (File.chars_congr hag.size hh _ _ (by decide)) fun sig _ => ite_map_congr (fun _ => rfl) fun _ => ?_
  refine bind_map_congr (hf _ (by decide)) fun sectors _ => ?_
  refine bind_map_congr (hf _ (by decide)) fun n hn => ?_
  have hbat : EqOn pvd_header.size (uint32_size * n) f f' := by
    dsimp only [hdsOpen] at hag
    rw [hn] at hag
    exact Agree.head (hag.agree.tail)
  refine ite_map_congr (fun _ => bind_map_congr (hf _ (by decide)) fun sz _ => ?_) fun _ => bind_map_congr (hf _ (by decide)) fun sz _ => ?_
  all_goals exact bind_map_congr (File.readExact_congr hag.size hbat) fun raw _ => rfl

open Hv.Extracted.vhd in
theorem vhd_footerPos_range (f : File) (fp : Nat) (h : Vhd.footerPos f = .ok fp) :
    512 ≤ f.size ∧ f.size - 512 ≤ fp ∧ fp + footer.size ≤ f.size := by
  unfold Vhd.footerPos at h
  by_cases hs : f.size < 512
  · simp [hs, bind, Except.bind, throw, throwThe, MonadExceptOf.throw] at h
  · simp only [hs, if_false, bind, Except.bind] at h
    have hfs : footer.size = 511 := rfl
    cases hf : f.field (f.size - 512) footer.size footer.features with
    | error e => simp [hf] at h
    | ok feat =>
      simp only [hf] at h
      split at h <;> (simp only [Except.ok.injEq] at h; omega)

open Hv.Extracted.vhd in
theorem vhd_open_footprint (f f' : File) (hag : AgreeOn (vhdOpen f) f f') :
    Vhd.open f' = (Vhd.open f).map (fun v => { v with fh := f' }) := by
  have hfs : footer.size = 511 := rfl
  have hft : EqOn (f.size - 512) 512 f f' := hag.agree (f.size - 512, 512) (List.mem_cons_self ..)
  have hfp : Vhd.footerPos f = Vhd.footerPos f' := by
    unfold Vhd.footerPos
    dsimp only
    rw [← hag.size, File.field_congr hag.size (hft.sub (m := footer.size) (Nat.le_refl _) (by omega)) footer.features (by decide)]
  unfold Vhd.open
  refine bind_map_congr hfp fun fp hpos => ?_
  obtain ⟨h512, hlo, hhi⟩ := vhd_footerPos_range f fp hpos
  have hf := fun fld => File.field_congr hag.size (hft.sub (m := footer.size) hlo (by omega)) fld
  refine bind_map_congr (hf _ (by decide)) fun d hd => ?_
  refine bind_map_congr (hf _ (by decide)) fun sz _ => ite_map_congr (fun _ => rfl) fun hfix => ?_
  have hdyn : EqOn d dynamic_header.size f f' := by
    have ht := hag.agree.tail
    simp only [hpos, hd, if_neg hfix] at ht
    exact ht.head
  have hg := fun fld => File.field_congr hag.size hdyn fld
  refine bind_map_congr (hg _ (by decide)) fun _ _ => ?_
  refine bind_map_congr (hg _ (by decide)) fun _ _ => ?_
  exact bind_map_congr (hg _ (by decide)) fun _ _ => rfl

end opens

section vhdx
open Hv.Vhdx Hv.Extracted.vhdx

theorem vhdx_batGet_congr (v : Vhdx) (f' : File) (entry : Nat) (hs : v.fh.size = f'.size)
    (h : entry < v.entryCount → EqOn (v.batOffset + entry * 8) bat_entry.size v.fh f') :
    v.batGet entry = ({ v with fh := f' } : Vhdx).batGet entry := by
  unfold Vhdx.batGet
  by_cases hb : entry + 1 > v.entryCount
  · rw [if_pos hb, if_pos hb]
  · rw [if_neg hb, if_neg hb]
    have he := h (by omega)
    rw [File.field_congr hs he bat_entry.state (by decide), File.field_congr hs he bat_entry.file_offset_mb (by decide)]

theorem vhdx_batGet_lt (v : Vhdx) (entry : Nat) (r : Nat × Nat) (h : v.batGet entry = .ok r) : ¬ v.entryCount ≤ entry := by
  intro hle
  unfold Vhdx.batGet at h
  rw [if_pos (by omega)] at h
  cases h

theorem vhdx_partialData_congr (v : Vhdx) (f' : File) (hs : v.fh.size = f'.size) (mb sector sib n : Nat)
    (h : EqOn (mb * MB + sib * v.sectorSize) (n * v.sectorSize) v.fh f') :
    ∀ (runs : List (Nat × Nat)) (rel : Nat), rel + (Layers.expand runs).length ≤ n →
      v.partialData mb sector sib runs rel = ({ v with fh := f' } : Vhdx).partialData mb sector sib runs rel := by
  intro runs
  induction runs with
  | nil => intro rel _; rfl
  | cons r rest ih =>
    obtain ⟨ty, cnt⟩ := r
    intro rel hlen
    simp only [Layers.expand, List.length_append, List.length_replicate] at hlen
    unfold Vhdx.partialData
    have e1 : (sib + rel) * v.sectorSize = sib * v.sectorSize + rel * v.sectorSize := Nat.add_mul ..
    have e2 : (rel + cnt) * v.sectorSize ≤ n * v.sectorSize := Nat.mul_le_mul_right _ (by omega)
    rw [Nat.add_mul] at e2
    rw [← ih (rel + cnt) (by omega), File.read_congr hs (h.sub (b := mb * MB + (sib + rel) * v.sectorSize) (by omega) (by omega))]

theorem vhdx_runs_total (bm : Bytes) (start n : Nat) (hs : start < 8) (runs : List (Nat × Nat))
    (h : iterPartialRuns bm start n = .ok runs) : (Layers.expand runs).length ≤ n := by
  cases bm with
  | nil => cases h
  | cons b0 rest =>
    rw [Layers.iterPartialRuns_eq _ _ _ hs (by simp)] at h
    cases h
    rw [Layers.expand_rle, Layers.bits_length]
    exact Nat.min_le_left _ _

/-- the present runs of `_iter_partial_runs` lie inside the requested sectors (`vhdx_runs_total`): a partially present block
    needs no more than its sector-bitmap BAT entry, the bitmap bytes of the requested sectors and those sectors. -/
theorem vhdx_partial_congr (v : Vhdx) (f' : File) (hs : v.fh.size = f'.size) (mb sbmb sector sib sic n : Nat)
    (hbm : EqOn (sbmb * MB + sic / 8) ((sic % 8 + n + 8 - 1) / 8) v.fh f')
    (hdata : EqOn (mb * MB + sib * v.sectorSize) (n * v.sectorSize) v.fh f') :
    (iterPartialRuns (v.fh.read (sbmb * MB + sic / 8) ((sic % 8 + n + 8 - 1) / 8)) (sic % 8) n >>=
        fun runs => v.partialData mb sector sib runs 0)
      = (iterPartialRuns (f'.read (sbmb * MB + sic / 8) ((sic % 8 + n + 8 - 1) / 8)) (sic % 8) n >>=
        fun runs => ({ v with fh := f' } : Vhdx).partialData mb sector sib runs 0) := by
  rw [← File.read_congr hs hbm]
  refine bind_congr_ok fun runs hruns => vhdx_partialData_congr v f' hs mb sector sib n hdata runs 0 ?_
  rw [Nat.zero_add]
  exact vhdx_runs_total _ _ _ (Nat.mod_lt _ (by omega)) runs hruns

theorem vhdx_chunk_congr (v : Vhdx) (f' : File) (s0 c0 i sector : Nat) (hs : v.fh.size = f'.size)
    (h : Agree (vhdxUnit v s0 c0 i) v.fh f') :
    v.chunk i sector (partIn v.spb s0 c0 i).1 (partIn v.spb s0 c0 i).2
      = ({ v with fh := f' } : Vhdx).chunk i sector (partIn v.spb s0 c0 i).1 (partIn v.spb s0 c0 i).2 := by
  unfold vhdxUnit at h
  generalize partIn v.spb s0 c0 i = p at h ⊢
  unfold Vhdx.chunk
  show (v.batGet (v.pbIndex i) >>= _) = (({ v with fh := f' } : Vhdx).batGet (v.pbIndex i) >>= _)
  rw [← vhdx_batGet_congr v f' _ hs fun hlt => by rw [if_neg (Nat.not_le.2 hlt)] at h; exact h.head]
  refine bind_congr_ok fun r hg => ?_
  obtain ⟨st, mb⟩ := r
  rw [if_neg (vhdx_batGet_lt v _ _ hg), hg] at h
  replace h := h.tail
  dsimp only at h
  refine ite_congr rfl (fun _ => rfl) fun _ => ite_congr rfl (fun _ => rfl) fun _ =>
    ite_congr rfl (fun h3 => ?_) fun h3 => ite_congr rfl (fun h4 => ?_) fun _ => rfl
  · rw [if_pos h3] at h
    exact congrArg Except.ok (File.read_congr hs h.head)
  · rw [if_neg h3, if_pos h4] at h
    show (v.batGet (v.sbIndex i) >>= _) = (({ v with fh := f' } : Vhdx).batGet (v.sbIndex i) >>= _)
    rw [← vhdx_batGet_congr v f' _ hs fun _ => h.left.head]
    refine bind_congr_ok fun r hgs => ?_
    rw [hgs] at h
    exact vhdx_partial_congr v f' hs mb r.2 sector p.1 (i % v.chunkRatio * v.spb + p.1) p.2 h.left.tail.head h.right.head

theorem vhdx_read_footprint (v : Vhdx) (f' : File) (off len : Nat) (hag : AgreeOn (vhdx v off len) v.fh f') :
    v.read off len = ({ v with fh := f' } : Vhdx).read off len := by
  unfold Vhdx.read vhdx at *
  dsimp only at hag ⊢
  generalize (min len (v.size - off) + v.sectorSize - 1) / v.sectorSize = n at hag ⊢
  by_cases hspb : v.spb = 0
  · cases n <;> simp [Vhdx.readSectors, hspb]
  have hpos : 0 < v.spb := by omega
  rw [readSectors_eq v hspb, readSectors_eq { v with fh := f' } hspb]
  refine blockLoop_units hpos hag.agree (fun s n hunit hpart => ?_) _
  have hchunk := vhdx_chunk_congr v f' _ _ _ s hag.size hunit
  rwa [hpart] at hchunk

theorem vhdxUnit_total (v : Vhdx) (sector count i : Nat) :
    total (vhdxUnit v sector count i) ≤ (partIn v.spb sector count i).2 * (v.sectorSize + 1) + 18 := by
  have hbe : bat_entry.size = 8 := rfl
  unfold vhdxUnit
  simp only []
  generalize partIn v.spb sector count i = pp
  have hmul : pp.2 * (v.sectorSize + 1) = pp.2 * v.sectorSize + pp.2 := by rw [Nat.mul_add, Nat.mul_one]
  split
  · simp [total]
  · rw [total_cons, hbe]
    split
    · rename_i st mb _
      split
      · rw [total_cons, total_nil]; simp only; omega
      · split
        · rw [total_append, total_cons, total_cons, total_nil]
          split
          · rw [total_cons, total_nil]; simp only; omega
          · rw [total_nil]; simp only; omega
        · simp [total]
    · simp [total]

end vhdx

/-! objects for the non-vacuity examples of `HvProps/C13.lean` -/
def exVdi : Vdi.Vdi :=
  { fh := ⟨2 ^ 41, fun p => UInt8.ofNat p⟩, dataOffset := 2 ^ 40, blockSize := 4096, sectorSize := 512, size := 3 * 4096,
    map := #[5, -1, 0], parent := none }
def exFile (g : Nat → UInt8) : File :=
  ⟨2 ^ 41, fun p => if p = 2 ^ 40 + 5 * 4096 + 1 ∨ p = 2 ^ 40 + 5 * 4096 + 2 then UInt8.ofNat p else g p⟩

section exVhdx
open Hv.Vhdx

/-! object for the non-vacuity example of `HvProps/C13.lean`: 4 KiB blocks of 512-byte sectors, BAT at 1 MiB; payload
    block 0 PARTIALLY_PRESENT at 2^42, its sector bitmap block at 2^41 with the bits of sectors 2 and 3 set -/
def exVhdxFile (g : Nat → UInt8) : File :=
  ⟨2 ^ 43, fun p =>
    if p = 2 ^ 20 then 7 else if p = 2 ^ 20 + 5 then 4
    else if p = 2 ^ 20 + 2 ^ 23 then 6 else if p = 2 ^ 20 + 2 ^ 23 + 5 then 2
    else if p = 2 ^ 41 then 12
    else if (2 ^ 20 ≤ p ∧ p < 2 ^ 20 + 8) ∨ (2 ^ 20 + 2 ^ 23 ≤ p ∧ p < 2 ^ 20 + 2 ^ 23 + 8) then 0
    else if 2 ^ 42 + 1024 ≤ p ∧ p < 2 ^ 42 + 2048 then UInt8.ofNat p
    else g p⟩
def exVhdx : Vhdx :=
  { fh := exVhdxFile (fun _ => 0), size := 8 * 4096, blockSize := 4096, sectorSize := 512, hasParent := false, batOffset := 2 ^ 20,
    spb := 8, chunkRatio := 2 ^ 20, entryCount := 2 ^ 20 + 1, parent := none, diskId := [], locator := [] }

theorem exVhdx_footprint :
    vhdx exVhdx 1024 1024 = [(2 ^ 20, 8), (2 ^ 20 + 2 ^ 23, 8), (2 ^ 41, 1), (2 ^ 42 + 1024, 1024)] := by decide

/-- on the ranges of the footprint of `exVhdx.read 1024 1024` the example files do not depend on `g` -/
theorem exVhdxFile_byte (g g' : Nat → UInt8) (p : Nat)
    (hp : (2 ^ 20 ≤ p ∧ p < 2 ^ 20 + 8) ∨ (2 ^ 20 + 2 ^ 23 ≤ p ∧ p < 2 ^ 20 + 2 ^ 23 + 8) ∨ p = 2 ^ 41 ∨
      (2 ^ 42 + 1024 ≤ p ∧ p < 2 ^ 42 + 1024 + 1024)) : (exVhdxFile g).byte p = (exVhdxFile g').byte p := by
  refine ite_else_congr fun _ => ite_else_congr fun _ => ite_else_congr fun _ => ite_else_congr fun _ =>
    ite_else_congr fun _ => ite_else_congr fun _ => ite_else_congr fun _ => ?_
  omega

end exVhdx

end Hv.Footprint
