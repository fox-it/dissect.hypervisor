/-
  Facts about lists that do not mention the model: trimming a list at both ends; lookups in association lists.
-/
namespace Hv
variable {α : Type}

theorem dropWhile_head_stop (f : α → Bool) (l : List α) (h : ∀ x, l.head? = some x → f x = false) :
    l.dropWhile f = l := by
  cases l with
  | nil => rfl
  | cons x xs => simp [h x rfl]

/-- the shape of the models' `strip` functions -/
def trimBoth (f : α → Bool) (s : List α) : List α := ((s.dropWhile f).reverse.dropWhile f).reverse

theorem trimBoth_sandwich (f : α → Bool) (pre v post : List α) (hpre : ∀ c ∈ pre, f c = true) (hpost : ∀ c ∈ post, f c = true)
    (hh : ∀ c, v.head? = some c → f c = false) (hl : ∀ c, v.getLast? = some c → f c = false) :
    trimBoth f (pre ++ (v ++ post)) = v := by
  unfold trimBoth
  rw [List.dropWhile_append_of_pos hpre]
  cases v with
  | nil =>
    have : post.dropWhile f = [] := by
      have := List.dropWhile_append_of_pos (l₂ := []) hpost
      simpa using this
    simp [this]
  | cons a v =>
    have ha : f a = false := hh a rfl
    have h1 : ((a :: v) ++ post).dropWhile f = (a :: v) ++ post := by simp [ha]
    rw [h1, List.reverse_append, List.dropWhile_append_of_pos (fun c hc => hpost c (by simpa using hc))]
    rw [dropWhile_head_stop f _ (by intro c hc; rw [List.head?_reverse] at hc; exact hl c hc)]
    simp

theorem span_loop_all (p : α → Bool) : ∀ (l acc : List α), (∀ a ∈ l, p a = true) →
    List.span.loop p l acc = (acc.reverse ++ l, [])
  | [], acc, _ => by simp [List.span.loop]
  | a :: l, acc, h => by
    have ha := h a (by simp)
    rw [List.span.loop]
    simp only [ha]
    rw [span_loop_all p l (a :: acc) (fun b hb => h b (by simp [hb]))]
    simp

theorem span_all (p : α → Bool) (l : List α) (h : ∀ a ∈ l, p a = true) : l.span p = (l, []) := by
  unfold List.span; rw [span_loop_all p l [] h]; simp

theorem flatMap_congr {α β : Type} {l : List α} {g g' : α → List β} (h : ∀ a ∈ l, g a = g' a) : l.flatMap g = l.flatMap g' := by
  rw [List.flatMap_def, List.flatMap_def, List.map_congr_left h]

theorem lookup_of_mem {α : Type} : ∀ (l : List (Nat × α)), (l.map Prod.fst).Nodup → ∀ (i : Nat) (a : α), (i, a) ∈ l → l.lookup i = some a := by
  intro l
  induction l with
  | nil => intro _ i a h; cases h
  | cons p r ih =>
    obtain ⟨j, b⟩ := p
    intro hn i a h
    simp only [List.map_cons, List.nodup_cons] at hn
    rcases List.mem_cons.1 h with e | hr
    · cases e; simp [List.lookup]
    · have hij : (i == j) = false := by
        have : i ≠ j := by intro e; subst e; exact hn.1 (List.mem_map_of_mem (f := Prod.fst) hr)
        simp [this]
      simp only [List.lookup, hij]
      exact ih hn.2 i a hr

theorem find?_off {α : Type} (l : List α) (key : α → Nat) (off : Nat) (x : α) (h : l.find? (fun a => key a == off) = some x) :
    x ∈ l ∧ key x = off :=
  ⟨List.mem_of_find?_eq_some h, by simpa using List.find?_some h⟩

end Hv
