/- Lemmas about `Hv.Resolve` (C07: from stored names to the chain of layers). -/
import Hv.Resolve
import HvProofs.Hdd
import HvProofs.Outcome
namespace Hv.Resolve
open Hv

open Hv.Extracted.vhdx in
/-- `VHDX.__init__` stores its two arguments and uses the parent object for nothing but the number of BAT entries.
    (The parent occurs in the last line of the constructor only: every step before it is a bind with the same first
    action on both sides, a gate that raises, or the lookup of a metadata item.) -/
theorem vhdxInit_eq_map (fh : File) (p : Option Vhdx.SectorReader) :
    Vhdx.open fh p = (Vhdx.open fh none).map fun v =>
      { v with fh := fh, parent := p, entryCount := if p.isSome then v.sbCount * (v.chunkRatio + 1) else v.entryCount } := by
  unfold Vhdx.open
  refine bind_map_congr rfl fun sig _ => ite_map_congr (fun _ => rfl) fun _ => ?_
  refine bind_map_congr rfl fun seq1 _ => bind_map_congr rfl fun sig1 _ => bind_map_congr rfl fun seq2 _ => bind_map_congr rfl fun sig2 _ => ?_
  refine ite_map_congr (fun _ => rfl) fun _ => ?_
  refine bind_map_congr rfl fun rt1 _ => bind_map_congr rfl fun _ _ => bind_map_congr rfl fun me _ => bind_map_congr rfl fun md _ => ?_
  cases Vhdx.metaGet md VIRTUAL_DISK_SIZE_GUID with | none => rfl | some it => ?_
  cases it with | diskSize size => ?_ | _ => rfl
  refine ite_map_congr (fun _ => rfl) fun _ => ?_
  cases Vhdx.metaGet md FILE_PARAMETERS_GUID with | none => rfl | some it => ?_
  cases it with | fileParameters blockSize hasParent => ?_ | _ => rfl
  cases Vhdx.metaGet md LOGICAL_SECTOR_SIZE_GUID with | none => rfl | some it => ?_
  cases it with | logicalSector sectorSize => ?_ | _ => rfl
  refine ite_map_congr (fun _ => rfl) fun _ => ?_
  cases Vhdx.metaGet md VIRTUAL_DISK_ID_GUID with | none => rfl | some it => ?_
  cases it with | diskId diskId => ?_ | _ => rfl
  refine ite_map_congr (fun _ => rfl) fun _ => ?_
  refine bind_map_congr rfl fun locator _ => bind_map_congr rfl fun be _ => ?_
  exact ite_map_congr (fun _ => rfl) fun _ => rfl

theorem vhdxInit_fields {fh : File} {p : Option Vhdx.SectorReader} {v : Vhdx.Vhdx} (h : Vhdx.open fh p = .ok v) :
    v.fh = fh ∧ v.parent = p := by
  rw [vhdxInit_eq_map] at h
  cases h0 : Vhdx.open fh none with
  | error e => rw [h0] at h; cases h
  | ok v0 => rw [h0] at h; cases h; exact ⟨rfl, rfl⟩

theorem open_withParent (fh : File) (r : Vhdx.SectorReader) (v0 : Vhdx.Vhdx)
    (h : Vhdx.open fh none = .ok v0) : Vhdx.open fh (some r) = .ok (withParent v0 r) ∧ v0.fh = fh ∧ v0.parent = none := by
  obtain ⟨hfh, hpar⟩ := vhdxInit_fields h
  refine ⟨?_, hfh, hpar⟩
  rw [vhdxInit_eq_map fh (some r), h, ← hfh]
  rfl

/-! `FS`: what `stat`, `exists`, `is_file` say about a path that `open` accepts or refuses -/

variable {α : Type}

theorem stat_of_fsOpen (fs : FS α) (p : Path) (c : α) (h : fs.open p = .ok c) : fs.stat p = some (.file c) := by
  unfold FS.open at h
  split at h
  · rename_i hs; rw [hs, Except.ok.inj h]
  · cases h

theorem fsOpen_exists (fs : FS α) (p : Path) (c : α) (h : fs.open p = .ok c) : fs.exists p = true := by
  rw [FS.exists, stat_of_fsOpen fs p c h]; rfl

theorem open_isFile (fs : FS α) (p : Path) (c : α) (h : fs.open p = .ok c) : fs.isFile p = true := by
  rw [FS.isFile, stat_of_fsOpen fs p c h]

theorem not_exists_open (fs : FS α) (p : Path) (h : fs.exists p = false) : fs.open p = .error .other := by
  unfold FS.exists at h
  unfold FS.open
  cases hs : fs.stat p with
  | none => rfl
  | some n => rw [hs] at h; cases h

/-! `vhdx.open_parent`: the candidates of a parent locator -/

theorem parentPath_iff (fs : FS α) (dir : Path) (loc : List (Name × Name)) (pp : Path) (he : fs.exists pp = true) :
    vhdxParentPath fs dir loc = .ok pp ↔
      (dictGet loc kRel).isSome ∧ (vhdxCandidates dir loc).find? fs.exists = some pp := by
  unfold vhdxParentPath vhdxCandidates
  cases dictGet loc kRel with
  | none => simp
  | some rel =>
    by_cases hx : fs.exists (vhdxRelPath dir rel) = true
    · simp [hx]
    · cases dictGet loc kAbs with
      | none => simp [hx]
      | some a =>
        simp [hx]
        exact fun h => h ▸ he

theorem find_parentPath (fs : FS α) (dir : Path) (loc : List (Name × Name)) (pp : Path)
    (hr : (dictGet loc kRel).isSome) (h : (vhdxCandidates dir loc).find? fs.exists = some pp) :
    vhdxParentPath fs dir loc = .ok pp :=
  (parentPath_iff fs dir loc pp (List.find?_some h)).mpr ⟨hr, h⟩

theorem parentPath_none (fs : FS α) (dir : Path) (loc : List (Name × Name)) (pp : Path)
    (hn : (vhdxCandidates dir loc).find? fs.exists = none) (h : vhdxParentPath fs dir loc = .ok pp) :
    fs.exists pp = false := by
  cases he : fs.exists pp with
  | false => rfl
  | true =>
    have := ((parentPath_iff fs dir loc pp he).mp h).2
    rw [hn] at this
    cases this

/-! `VHDX(path)`: the walk through the chain of parents -/

theorem vhdxOpen_ok {fs : FS File} {fuel : Nat} {p : Path} {chain : List (Path × Vhdx.Vhdx)}
    (h : vhdxOpen fs (fuel + 1) p = .ok chain) :
    ∃ fh v0, fs.open p = .ok fh ∧ Vhdx.open fh none = .ok v0 ∧
      if v0.hasParent then
        ∃ loc pp par rest, decodeLocator v0.locator = some loc ∧ vhdxParentPath fs p.parent loc = .ok pp ∧
          vhdxOpen fs fuel pp = .ok (par :: rest) ∧ chain = (p, withParent v0 par.2.reader) :: par :: rest
      else chain = [(p, v0)] := by
  unfold vhdxOpen at h
  split at h
  · cases h
  rename_i fh hfh
  split at h
  · cases h
  rename_i v0 hv0
  refine ⟨fh, v0, hfh, hv0, ?_⟩
  split at h
  · rename_i hhp
    rw [if_pos hhp]
    split at h
    · cases h
    rename_i loc hloc
    split at h
    · cases h
    rename_i pp hpp
    split at h
    · cases h
    · cases h
    · rename_i par rest hrec
      exact ⟨loc, pp, par, rest, hloc, hpp, hrec, (Except.ok.inj h).symm⟩
  · rename_i hhp
    rw [if_neg hhp]
    exact (Except.ok.inj h).symm

theorem vhdxOpen_exists {fs : FS File} {fuel : Nat} {p : Path} {chain : List (Path × Vhdx.Vhdx)}
    (h : vhdxOpen fs fuel p = .ok chain) : fs.exists p = true := by
  cases fuel with
  | zero => cases h
  | succ fuel =>
    obtain ⟨fh, _, hfh, _⟩ := vhdxOpen_ok h
    exact fsOpen_exists fs p fh hfh

theorem vhdxOpen_spec (fs : FS File) : ∀ (fuel : Nat) (p : Path) (chain : List (Path × Vhdx.Vhdx)),
    vhdxOpen fs fuel p = .ok chain →
      VhdxDesignates fs chain ∧ Vhdx.Linked (chain.map (·.2)) ∧ chain.head?.map (·.1) = some p := by
  intro fuel
  induction fuel with
  | zero => intro p chain h; cases h
  | succ fuel ih =>
    intro p chain h
    obtain ⟨fh, v0, hfh, hv0, hcase⟩ := vhdxOpen_ok h
    have hfh0 : v0.fh = fh := (vhdxInit_fields hv0).1
    split at hcase
    · rename_i hhp
      obtain ⟨loc, pp, par, rest, hloc, hpp, hrec, rfl⟩ := hcase
      obtain ⟨hd, hl, hh⟩ := ih pp (par :: rest) hrec
      have hh : par.1 = pp := Option.some.inj hh
      obtain ⟨hk, hf⟩ := (parentPath_iff fs p.parent loc pp (vhdxOpen_exists hrec)).mp hpp
      refine ⟨⟨?_, ?_, hhp, ⟨loc, hloc, hk, hh ▸ hf⟩, hd⟩, ⟨rfl, hl⟩, rfl⟩
      · exact hfh.trans (congrArg Except.ok hfh0.symm)
      · show Vhdx.open v0.fh (some par.2.reader) = _
        rw [hfh0]; exact (open_withParent fh par.2.reader v0 hv0).1
    · rename_i hhp
      subst hcase
      refine ⟨⟨?_, ?_, by simpa using hhp⟩, trivial, rfl⟩
      · exact hfh.trans (congrArg Except.ok hfh0.symm)
      · show Vhdx.open v0.fh none = _
        rw [hfh0]; exact hv0

theorem vhdxOpen_parent (fs : FS File) (fuel : Nat) (p : Path) (q : Path × Vhdx.Vhdx) (rest : List (Path × Vhdx.Vhdx))
    (h : vhdxOpen fs fuel p = .ok (q :: rest)) (hp : q.2.hasParent = true) :
    ∃ par rest', rest = par :: rest' ∧ q.2.parent = some par.2.reader := by
  obtain ⟨hd, hl, _⟩ := vhdxOpen_spec fs fuel p _ h
  cases rest with
  | nil =>
    have := hd.2.2
    rw [hp] at this; cases this
  | cons par rest' => exact ⟨par, rest', rfl, hl.1⟩


open Hdd in

/-- the GUIDs after `shot` on its way to the root -/
def PathFrom (shots : List (Nat × Nat)) (null : Nat) : Nat × Nat → List Nat → Prop
  | shot, [] => shot.2 = null
  | shot, b :: rest => shot.2 ≠ null ∧ ∃ p, Hdd.findShot shots shot.2 = some p ∧ p.1 = b ∧ PathFrom shots null p rest

section
variable (shots : List (Nat × Nat)) (null : Nat)

theorem isPath_iff : ∀ (tail : List Nat) (a : Nat),
    IsPath shots null (a :: tail) ↔ ∃ s, Hdd.findShot shots a = some s ∧ PathFrom shots null s tail := by
  intro tail
  induction tail with
  | nil => intro a; simp [IsPath, PathFrom]
  | cons b rest ih =>
    intro a
    simp only [IsPath, PathFrom]
    constructor
    · rintro ⟨⟨s, hs, hn, hb⟩, hrest⟩
      obtain ⟨s', hs', hp⟩ := (ih b).mp hrest
      exact ⟨s, hs, hn, s', by rw [hb]; exact hs', (Hdd.findShot_mem hs').1, hp⟩
    · rintro ⟨s, hs, hn, p, hp, hpb, hrest⟩
      have hb : s.2 = b := by rw [← hpb]; exact (Hdd.findShot_mem hp).1.symm
      exact ⟨⟨s, hs, hn, hb⟩, (ih b).mpr ⟨p, by rw [← hb]; exact hp, hrest⟩⟩

theorem pathFrom_mem : ∀ (tail : List Nat) (s : Nat × Nat),
    PathFrom shots null s tail → ∀ x ∈ tail, x ∈ shots.map (·.1) := by
  intro tail
  induction tail with
  | nil => intro s _ x hx; cases hx
  | cons b rest ih =>
    intro s h x hx
    obtain ⟨_, p, hp, hpb, hrest⟩ := h
    rcases List.mem_cons.mp hx with rfl | hx
    · rw [← hpb]; exact (Hdd.findShot_mem hp).2
    · exact ih p hrest x hx

theorem chainLoop_sound : ∀ (fuel : Nat) (shot : Nat × Nat) (acc chain : List Nat),
    Hdd.chainLoop shots null fuel shot acc = .ok chain →
      ∃ tail, chain = acc.reverse ++ tail ∧ PathFrom shots null shot tail ∧ (acc.Nodup → chain.Nodup) := by
  intro fuel
  induction fuel with
  | zero => intro shot acc chain h; cases h
  | succ fuel ih =>
    intro shot acc chain h
    unfold Hdd.chainLoop at h
    split at h
    · rename_i hn
      cases h
      exact ⟨[], by simp, hn, (List.reverse_perm acc).nodup_iff.mpr⟩
    · rename_i hn
      split at h
      · cases h
      · rename_i p hp
        split at h
        · cases h
        · rename_i hc
          obtain ⟨tail, hch, hpf, hnd⟩ := ih p (p.1 :: acc) chain h
          refine ⟨p.1 :: tail, by rw [hch]; simp, ⟨hn, p, hp, rfl, hpf⟩, fun hacc => hnd ?_⟩
          exact List.nodup_cons.mpr ⟨by simpa using hc, hacc⟩

theorem chainLoop_complete : ∀ (fuel : Nat) (shot : Nat × Nat) (acc tail : List Nat),
    PathFrom shots null shot tail → (acc.reverse ++ tail).Nodup → tail.length < fuel →
      Hdd.chainLoop shots null fuel shot acc = .ok (acc.reverse ++ tail) := by
  intro fuel
  induction fuel with
  | zero => intro shot acc tail _ _ hl; omega
  | succ fuel ih =>
    intro shot acc tail hp hnd hl
    unfold Hdd.chainLoop
    cases tail with
    | nil =>
      have : shot.2 = null := hp
      rw [if_pos this]; simp
    | cons b rest =>
      obtain ⟨hn, p, hfp, hpb, hrest⟩ := hp
      rw [if_neg hn, hfp]
      simp only
      have hnb : ¬ acc.contains p.1 = true := by
        rw [hpb]
        intro hc
        have hmem : b ∈ acc.reverse := by simpa using hc
        have := (List.nodup_append.mp hnd).2.2 b hmem b (by simp)
        exact this rfl
      rw [if_neg hnb]
      have e : acc.reverse ++ b :: rest = (p.1 :: acc).reverse ++ rest := by rw [hpb]; simp
      rw [e]
      apply ih p (p.1 :: acc) rest hrest
      · rw [← e]; exact hnd
      · simp only [List.length_cons] at hl; omega

end

theorem snapshotChain_ok_iff (shots : List (Nat × Nat)) (null g : Nat) (chain : List Nat) :
    Hdd.snapshotChain shots null g = .ok chain ↔ chain.head? = some g ∧ IsPath shots null chain ∧ chain.Nodup := by
  constructor
  · intro h
    unfold Hdd.snapshotChain at h
    split at h
    · cases h
    · rename_i s hs
      obtain ⟨tail, hch, hpf, hnd⟩ := chainLoop_sound shots null _ s [s.1] chain h
      have hg := (Hdd.findShot_mem hs).1
      have hch' : chain = g :: tail := by rw [hch, hg]; rfl
      refine ⟨by rw [hch']; rfl, ?_, hnd (by simp)⟩
      rw [hch']
      exact (isPath_iff shots null tail g).mpr ⟨s, hs, hpf⟩
  · rintro ⟨hh, hp, hnd⟩
    cases chain with
    | nil => cases hh
    | cons a tail =>
      simp only [List.head?_cons, Option.some.injEq] at hh
      subst hh
      obtain ⟨s, hs, hpf⟩ := (isPath_iff shots null tail a).mp hp
      have hmem := Hdd.findShot_mem hs
      unfold Hdd.snapshotChain
      rw [hs]
      simp only
      have hsub : ∀ x ∈ a :: tail, x ∈ shots.map (·.1) := by
        intro x hx
        rcases List.mem_cons.mp hx with rfl | hx
        · rw [← hmem.1]; exact hmem.2
        · exact pathFrom_mem shots null tail s hpf x hx
      have hlen := List.Nodup.length_le_of_subset hnd hsub
      simp only [List.length_cons, List.length_map] at hlen
      have := chainLoop_complete shots null (shots.length + 1) s [s.1] tail hpf
        (by rw [hmem.1]; exact hnd) (by omega)
      rw [this, hmem.1]; rfl

theorem chainLoop_err (shots : List (Nat × Nat)) (null : Nat) : ∀ (fuel : Nat) (shot : Nat × Nat) (acc : List Nat) (e : Err),
    Hdd.chainLoop shots null fuel shot acc = .error e → e = .nonTermination ∨ e = .index ∨ e = .value := by
  intro fuel
  induction fuel with
  | zero => intro shot acc e h; cases h; exact Or.inl rfl
  | succ fuel ih =>
    intro shot acc e h
    unfold Hdd.chainLoop at h
    split at h
    · cases h
    · split at h
      · cases h; exact Or.inr (Or.inl rfl)
      · split at h
        · cases h; exact Or.inr (Or.inr rfl)
        · exact ih _ _ _ h

theorem snapshotChain_err (shots : List (Nat × Nat)) (null g : Nat) (e : Err)
    (h : Hdd.snapshotChain shots null g = .error e) : e = .index ∨ e = .value := by
  have ht := Hdd.snapshotChain_progress shots null g
  unfold Hdd.snapshotChain at h ht
  split at h
  · cases h; exact Or.inl rfl
  · rename_i s hs
    rw [hs] at ht
    rcases chainLoop_err shots null _ _ _ e h with rfl | h2
    · exact absurd h ht
    · exact h2

/-! the first existing candidate, else the last (Parallels `_open_image`, VMDK `open_parent`); `HDD.open`: layers, storages -/

/-- "the first of the candidates that exists, else the last one", as `_open_image` and `vmdk.open_parent` compute it -/
theorem find?_getD_pair {β : Type} (e : β → Bool) (a b : β) : ([a, b].find? e).getD b = if e a then a else b := by
  cases ha : e a <;> cases hb : e b <;> simp [ha, hb]

theorem find?_getD_triple {β : Type} (e : β → Bool) (a b c : β) :
    ([a, b, c].find? e).getD c = if e (if e a then a else b) then (if e a then a else b) else c := by
  cases ha : e a <;> cases hb : e b <;> cases hc : e c <;> simp [ha, hb, hc]

theorem hddImagePath_spec (fs : FS α) (root : Path) (file : Name) :
    hddImagePath fs root file =
      if (Path.ofStr file).abs then
        if fs.exists (Path.ofStr file) then Path.ofStr file
        else ((hddCandidates root (Path.ofStr file)).find? fs.exists).getD
          (((root.parent.parent.joinStr (Path.ofStr file).parent.parent.name).joinStr (Path.ofStr file).parent.name).joinStr
            (Path.ofStr file).name)
      else root.join (Path.ofStr file) := by
  unfold hddImagePath hddCandidates
  rw [find?_getD_triple]

open HddOpen in
theorem openLayers_files (d : Dir) (s : Meta.Storage) (gs : List Nat) (stream r : Option Reader)
    (h : openLayers d s gs stream = .ok r) :
    ∀ g ∈ gs, ∃ image name fh, findImage s g = .ok image ∧ image.file = some name ∧ d.openImage name = .ok fh ∧
      (image.type = some TYPE_COMPRESSED ∨ image.type = some TYPE_PLAIN) := by
  induction gs generalizing stream with
  | nil => intro g hg; cases hg
  | cons g0 gs ih =>
    unfold openLayers at h
    split at h
    · cases h                       -- no image with this GUID
    rename_i image hi
    split at h
    · cases h                       -- the image names no file
    rename_i name hname
    split at h
    · cases h                       -- the file does not open
    rename_i fh hfh
    -- the type dispatch: "Compressed" puts an HDS layer on the stream, "Plain" the raw file, anything else is refused;
    -- both accepted branches go on with the rest of the chain
    have key : (image.type = some TYPE_COMPRESSED ∨ image.type = some TYPE_PLAIN) ∧
        ∃ st, openLayers d s gs st = .ok r := by
      split at h
      · rename_i hc
        split at h
        · cases h
        · exact ⟨.inl hc, _, h⟩
      · obtain ⟨hp, h⟩ := ok_of_ne_gate h
        exact ⟨.inr hp, _, h⟩
    intro g hg
    rcases List.mem_cons.mp hg with rfl | hm
    · exact ⟨image, name, fh, hi, hname, hfh, key.1⟩
    · exact key.2.elim fun st hst => ih st hst g hm

open HddOpen in
theorem openStorages_files (d : Dir) (chain : List Nat) (ss : List Meta.Storage)
    (r : List (Meta.Storage × Option Reader)) (h : openStorages d chain ss = .ok r) :
    ∀ s ∈ ss, ∀ g ∈ chain, ∃ image name fh, findImage s g = .ok image ∧ image.file = some name ∧
      d.openImage name = .ok fh ∧ (image.type = some TYPE_COMPRESSED ∨ image.type = some TYPE_PLAIN) := by
  induction ss generalizing r with
  | nil => intro s hs; cases hs
  | cons s0 ss ih =>
    unfold openStorages at h
    split at h
    · cases h
    · rename_i stream hl
      split at h
      · cases h
      · rename_i rest hr
        intro s hs g hg
        rcases List.mem_cons.mp hs with rfl | hm
        · exact openLayers_files d s chain.reverse none stream hl g (by simpa using hg)
        · exact ih rest hr s hm g hg

theorem hddOpen_ok (d : HddOpen.Dir) (n t : Nat) (guid : Option Nat) (r : List (Meta.Storage × Option HddOpen.Reader))
    (h : HddOpen.open d n t guid = .ok r) :
    ∃ desc chain, d.descriptor = some (.ok desc) ∧
      Hdd.snapshotChain (desc.shots.map fun s => (s.guid, s.parent)) n
        (match guid with | some g => g | none => match desc.topGuid with | some x => x | none => t) = .ok chain ∧
      HddOpen.openStorages d chain desc.storages = .ok r := by
  unfold HddOpen.open at h
  split at h
  · cases h
  · rename_i desc hd
    simp only at h
    split at h
    · cases h
    · rename_i chain hc
      refine ⟨desc, chain, ?_, hc, h⟩
      unfold HddOpen.init at hd
      split at hd
      · cases hd
      · rename_i x hx; rw [hx, hd]

/-! QCOW2: the backing handle is the caller's -/

theorem qcow2_open_backing (fh : File) (df : Option File) (bk : Option Qcow2.Reader) (allow : Bool)
    (infl : Bytes → Nat → Except Err Bytes) (q : Qcow2.QCow2) (h : Qcow2.open fh df bk allow infl = .ok q) :
    (q.backingName = none → q.backing = none) ∧
    (q.backingName.isSome → allow = true → q.backing = none) ∧
    (q.backingName.isSome → allow = false → bk.isSome ∧ q.backing = bk) := by
  unfold Qcow2.open at h
  obtain ⟨hd, _, h⟩ := bind_ok h
  cases hg : hd.gate with
  | some e => rw [hg] at h; cases h
  | none =>
    rw [hg] at h
    obtain ⟨exts, _, h⟩ := bind_ok h
    obtain ⟨dfile, _, h⟩ := bind_ok h
    obtain ⟨⟨bname, bkk⟩, hbb, h⟩ := bind_ok h
    cases h
    by_cases hb : hd.bfOff ≠ 0
    · rw [if_pos hb] at hbb
      obtain ⟨hc, hbb⟩ := ok_of_gate hbb
      cases hbb
      refine ⟨nofun, fun _ ha => by simp [ha], fun _ ha => ?_⟩
      subst ha
      cases bk <;> simp at hc ⊢
    · rw [if_neg hb] at hbb
      cases hbb
      exact ⟨fun _ => rfl, nofun, nofun⟩
end Hv.Resolve
