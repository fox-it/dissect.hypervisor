import Hv.Vhdx
import HvProofs.BlockLoop
import HvProofs.Stream
namespace Hv.Vhdx
open Hv Hv.Extracted.vhdx

theorem MB_eq : MB = 2 ^ 20 := by decide

section
variable (v : Vhdx)

/-- a BAT lookup inside the table decodes state = low 3 bits, offset = bits 20..63 -/
theorem batGet_ok (i : Nat) (hi : i < v.entryCount) (ht : v.batOffset + 8 * v.entryCount ≤ v.fh.size) :
    v.batGet i = .ok (v.batRaw i % 8, v.batRaw i / 2 ^ 20) := by
  have hin : v.batOffset + i * 8 + bat_entry.size ≤ v.fh.size := by show _ + 8 ≤ _; omega
  -- the entry is below 2^64, so nothing is cut off above bit 63
  have hlt := leNat_lt (slice v.fh.byte (v.batOffset + 8 * i) 8)
  rw [slice_length, show (256 : Nat) ^ 8 = 2 ^ 20 * 2 ^ 44 from by decide, Nat.mul_comm 8 i] at hlt
  rw [Vhdx.batGet, if_neg (by omega)]
  simp only [File.field, if_pos hin, bind, Except.bind, pure, Except.pure]
  rw [show bat_entry.state = ⟨0, 1, false, 0, 3⟩ from rfl, show bat_entry.file_offset_mb = ⟨0, 8, false, 20, 44⟩ from rfl,
    Field.decode, Field.decode, Vhdx.batRaw, Nat.mul_comm 8 i]
  simp only [Nat.add_zero, Bool.false_eq_true, if_false]
  rw [Nat.mod_eq_of_lt (Nat.div_lt_of_lt_mul hlt)]
  -- the state is in the first byte
  generalize v.batOffset + i * 8 = o
  generalize v.fh.byte = g
  rw [show slice g o 8 = g o :: slice g (o + 1) 7 from slice_succ g o 7,
    show slice g o 1 = g o :: slice g (o + 1) 0 from slice_succ g o 0]
  simp only [leNat, slice_zero]
  generalize leNat (slice g (o + 1) 7) = R
  rw [Nat.pow_zero, Nat.div_one, show (2 : Nat) ^ 3 = 8 from rfl,
    show ((g o).toNat + 256 * 0) % 8 = ((g o).toNat + 256 * R) % 8 from by omega]

theorem readSectors_zero (fuel s : Nat) : v.readSectors fuel s 0 = .ok [] := by
  cases fuel <;> simp [Vhdx.readSectors]

theorem readSectors_succ (fuel sector : Nat) {count n : Nat} (hc : count ≠ 0) (hs : v.spb ≠ 0)
    (hn : min count (v.spb - sector % v.spb) = n) :
    v.readSectors (fuel + 1) sector count =
      (do let c ← v.chunk (sector / v.spb) sector (sector % v.spb) n
          let rest ← v.readSectors fuel (sector + n) (count - n)
          .ok (c ++ rest)) := by
  subst hn
  rw [Vhdx.readSectors, if_neg hc, if_neg hs]

def piece (v : Vhdx) (sector n : Nat) : Except Err Bytes := v.chunk (sector / v.spb) sector (sector % v.spb) n

theorem readSectors_eq (hs : v.spb ≠ 0) : ∀ fuel sector count,
    v.readSectors fuel sector count = blockLoop v.spb (piece v) fuel sector count := by
  intro fuel
  induction fuel with
  | zero => intro sector count; rfl
  | succ fuel ih =>
    intro sector count
    by_cases hc : count = 0
    · subst hc; rw [readSectors_zero, blockLoop_zero]
    · rw [readSectors_succ v _ _ hc hs rfl, blockLoop_succ _ _ hc rfl, ih, piece]

def pbCount (v : Vhdx) : Nat := (v.size + v.blockSize - 1) / v.blockSize

theorem pbIndex_lt (hwf : WF v) (b : Nat) (hb : b < pbCount v) : v.pbIndex b < v.entryCount := by
  have hc := hwf.count
  unfold pbCount at hb
  unfold Vhdx.pbIndex
  have : b / v.chunkRatio ≤ ((v.size + v.blockSize - 1) / v.blockSize - 1) / v.chunkRatio :=
    Nat.div_le_div_right (by omega)
  omega

section chunk
variable {block sector sib n st mb : Nat}

theorem chunk_notPresent (h : v.batGet (v.pbIndex block) = .ok (0, mb)) :
    v.chunk block sector sib n
      = match v.parent with
        | some p => p sector n
        | none => .ok (zeros (n * v.sectorSize)) := by
  unfold Vhdx.chunk; rw [h]; rfl

theorem chunk_zero (h : v.batGet (v.pbIndex block) = .ok (st, mb)) (h1 : 0 < st) (h3 : st ≤ 3) :
    v.chunk block sector sib n = .ok (zeros (n * v.sectorSize)) := by
  unfold Vhdx.chunk; rw [h]
  have hst : st = 1 ∨ st = 2 ∨ st = 3 := by omega
  rcases hst with rfl | rfl | rfl <;> rfl

theorem chunk_full (h : v.batGet (v.pbIndex block) = .ok (6, mb)) :
    v.chunk block sector sib n = .ok (v.fh.read (mb * MBs + sib * v.sectorSize) (n * v.sectorSize)) := by
  unfold Vhdx.chunk; rw [h]; rfl

theorem chunk_partial {x sbmb : Nat} (h : v.batGet (v.pbIndex block) = .ok (7, mb))
    (hs : v.batGet (v.sbIndex block) = .ok (x, sbmb)) :
    v.chunk block sector sib n
      = (iterPartialRuns (v.fh.read (sbmb * MBs + ((block % v.chunkRatio) * v.spb + sib) / 8)
            ((((block % v.chunkRatio) * v.spb + sib) % 8 + n + 8 - 1) / 8))
          (((block % v.chunkRatio) * v.spb + sib) % 8) n).bind fun runs => v.partialData mb sector sib runs 0 := by
  unfold Vhdx.chunk; rw [h]
  show (v.batGet (v.sbIndex block) >>= _) = _
  rw [hs]; rfl
end chunk

theorem guest_of_block {o block : Nat} (ho : o / v.blockSize = block) :
    v.guest o = if v.batRaw (block + block / v.chunkRatio) % 8 = 6 then
        v.fh.byte (v.batRaw (block + block / v.chunkRatio) / MBs * MBs + o % v.blockSize)
      else 0 := by
  rw [Vhdx.guest, ho]

theorem piece_correct (hwf : WF v) (s n : Nat) (_ : 0 < n) (hn : s % v.spb + n ≤ v.spb)
    (hin : s + n ≤ pbCount v * v.spb) :
    piece v s n = .ok (slice v.guest (s * v.sectorSize) (n * v.sectorSize)) := by
  have hbs := hwf.bs
  have hbspos : 0 < v.blockSize := by rw [hbs]; exact Nat.mul_pos hwf.spb_pos hwf.ss_pos
  have hblk : s / v.spb < pbCount v := Nat.div_lt_of_lt_mul (by rw [Nat.mul_comm]; omega)
  have hdiv : s * v.sectorSize / v.blockSize = s / v.spb := by rw [hbs, Nat.mul_div_mul_right _ _ hwf.ss_pos]
  have hmod : s * v.sectorSize % v.blockSize = s % v.spb * v.sectorSize := by rw [hbs, Nat.mul_mod_mul_right]
  have hfit : s * v.sectorSize % v.blockSize + n * v.sectorSize ≤ v.blockSize := by
    rw [hmod, hbs, ← Nat.add_mul]; exact Nat.mul_le_mul_right _ hn
  have hg := fun o (ho : o / v.blockSize = s * v.sectorSize / v.blockSize) => guest_of_block v (ho.trans hdiv)
  have hget := batGet_ok v _ (pbIndex_lt v hwf _ hblk) hwf.table_in
  have hent := hwf.entries _ hblk
  rw [Vhdx.pbIndex] at hget
  generalize v.batRaw (s / v.spb + s / v.spb / v.chunkRatio) = e at hg hget hent
  rw [piece]
  rcases hent with hz | ⟨h6, hfile⟩
  · have hch : v.chunk (s / v.spb) s (s % v.spb) n = .ok (zeros (n * v.sectorSize)) := by
      by_cases h0 : e % 8 = 0
      · rw [h0] at hget; rw [chunk_notPresent v hget, hwf.noParent]
      · exact chunk_zero v hget (Nat.pos_of_ne_zero h0) hz
    rw [hch]
    exact congrArg _ (slice_unit_zero hbspos hfit fun o ho => by rw [hg o ho, if_neg (by omega)])
  · rw [h6] at hget
    have hrd : e / MBs * MBs + s * v.sectorSize % v.blockSize + n * v.sectorSize ≤ v.fh.size := by
      rw [Nat.add_assoc]; exact Nat.le_trans (Nat.add_le_add_left hfit _) hfile
    rw [chunk_full v hget, show e / 2 ^ 20 * MBs = e / MBs * MBs from rfl, ← hmod,
      File.read_eq_slice hrd]
    exact congrArg _ (slice_unit_file _ hbspos hfit fun o ho => by rw [hg o ho, if_pos h6])

theorem readSectors_correct (hwf : WF v) :
    ∀ fuel sector count, count ≤ fuel → (sector + count) ≤ pbCount v * v.spb →
      v.readSectors fuel sector count
        = .ok (slice v.guest (sector * v.sectorSize) (count * v.sectorSize)) := by
  intro fuel sector count hf hb
  rw [readSectors_eq v (Nat.ne_of_gt hwf.spb_pos)]
  exact blockLoop_correct v.guest v.sectorSize _ hwf.spb_pos (piece_correct v hwf) fuel sector count hf hb

theorem read_covers (hwf : WF v) (off len : Nat) (ho : off % v.sectorSize = 0) :
    Covers (v.read off len) v.guest v.size v.sectorSize off len := by
  have hcov : v.size ≤ pbCount v * v.spb * v.sectorSize := by
    rw [Nat.mul_assoc, ← hwf.bs]
    exact le_roundUp _ (by rw [hwf.bs]; exact Nat.mul_pos hwf.spb_pos hwf.ss_pos)
  exact sector_covers (rs := fun s c => v.readSectors c s c) hwf.ss_pos hcov
    (fun s c h => h.elim (fun hc => by rw [hc, readSectors_zero, Nat.zero_mul, slice_zero])
      (readSectors_correct v hwf c s c (Nat.le_refl _))) off len ho

theorem wfb_sound (h : v.wfb = true) : WF v := by
  unfold Vhdx.wfb at h
  simp only [Bool.and_eq_true, decide_eq_true_eq, List.all_eq_true, List.mem_range, Bool.or_eq_true,
    Option.isNone_iff_eq_none] at h
  obtain ⟨⟨⟨⟨⟨⟨⟨h0, h1⟩, h2⟩, h3⟩, h4⟩, h5⟩, h6⟩, h7⟩ := h
  exact ⟨h0, h1, h2, h3, h4, h5, h6, h7⟩

end

theorem readSectors_progress (v : Vhdx)
    (hchunk : ∀ b s i n, v.chunk b s i n ≠ .error .nonTermination) :
    ∀ fuel sector count, count ≤ fuel → v.readSectors fuel sector count ≠ .error .nonTermination := by
  intro fuel sector count hf
  by_cases hs : v.spb = 0
  · -- division by zero at the first pass, if there is one
    by_cases hc : count = 0
    · rw [hc, readSectors_zero]; nofun
    · obtain ⟨f, rfl⟩ : ∃ f, fuel = f + 1 := ⟨fuel - 1, by omega⟩
      rw [Vhdx.readSectors, if_neg hc, if_pos hs]; nofun
  · rw [readSectors_eq v hs]
    exact blockLoop_progress (Nat.pos_of_ne_zero hs) (fun s n => hchunk _ _ _ _) fuel sector count hf

end Hv.Vhdx
