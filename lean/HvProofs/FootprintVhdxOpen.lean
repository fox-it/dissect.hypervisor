/-
  Footprint of `VHDX.__init__` (C13, I/O clause): the constructor depends on the file only through its size and the
  bytes named by `Hv.Footprint.vhdxOpen` — file identifier, both headers, both region tables, the metadata table and
  the metadata items (parent locator entries, keys and values included). The BAT is not read at open.
-/
import HvProofs.FootprintBasic
namespace Hv.Footprint
open Hv Hv.Vhdx Hv.Extracted.vhdx

section vhdxOpen

theorem EqOn.entry {f f' : File} {a n es : Nat} (h : EqOn a (n * es) f f') {i : Nat} (hi : i < n) :
    EqOn (a + i * es) es f f' := by
  have hin : (i + 1) * es ≤ n * es := Nat.mul_le_mul_right _ hi
  rw [Nat.add_mul, Nat.one_mul] at hin
  exact h.sub (by omega) (by omega)

theorem regionTable_congr (f f' : File) (off : Nat) (hs : f.size = f'.size) (h : Agree (vhdxRegion f off) f f') :
    regionTable f off = regionTable f' off := by
  unfold vhdxRegion at h
  have hh : EqOn off region_table_header.size f f' := h.head
  unfold regionTable
  dsimp only
  rw [← File.chars_congr hs hh _ _ (by decide), ← File.field_congr hs hh region_table_header.entry_count (by decide), ← hs]
  refine bind_congr_ok fun sig _ => ite_congr rfl (fun _ => bind_congr_ok nofun) fun _ => (bind_congr_ok fun n hn => ?_)
  by_cases hfit : off + region_table_header.size + n * region_table_entry.size > f.size
  · rw [if_pos hfit, if_pos hfit]
    rfl
  rw [if_neg hfit, if_neg hfit]
  have hent : EqOn (off + region_table_header.size) (n * region_table_entry.size) f f' := by
    replace h := h.tail
    rw [hn] at h
    dsimp only at h
    rw [if_neg hfit] at h
    exact h.head
  refine mapM_congr fun i hi => ?_
  have hsub := hent.entry (List.mem_range.1 hi)
  rw [File.chars_congr hs hsub _ _ (by decide), File.field_congr hs hsub region_table_entry.file_offset (by decide),
    File.field_congr hs hsub region_table_entry.length (by decide), File.field_congr hs hsub region_table_entry.required (by decide)]

theorem parseLocator_congr (f f' : File) (off : Nat) (hs : f.size = f'.size) (h : Agree (vhdxLocator f off) f f') :
    parseLocator f off = parseLocator f' off := by
  unfold vhdxLocator at h
  have hh : EqOn off parent_locator_header.size f f' := h.head
  unfold parseLocator
  dsimp only
  rw [← File.chars_congr hs hh _ _ (by decide), ← File.field_congr hs hh parent_locator_header.key_value_count (by decide)]
  refine bind_congr_ok fun ty _ => bind_congr_ok fun n hn => ?_
  replace h := h.tail
  rw [hn] at h
  refine congrArg (· >>= _) (mapM_congr fun i hi => ?_)
  have hent : Agree (vhdxLocatorEntry f off i) f f' := h.unit hi
  unfold vhdxLocatorEntry at hent
  have hb : EqOn (off + parent_locator_header.size + i * parent_locator_entry.size) parent_locator_entry.size f f' :=
    hent.head
  replace hent := hent.tail
  rw [← File.field_congr hs hb parent_locator_entry.key_offset (by decide),
    ← File.field_congr hs hb parent_locator_entry.value_offset (by decide),
    ← File.field_congr hs hb parent_locator_entry.key_length (by decide),
    ← File.field_congr hs hb parent_locator_entry.value_length (by decide)]
  refine bind_congr_ok fun ko hko => bind_congr_ok fun vo hvo => bind_congr_ok fun kl hkl => bind_congr_ok fun vl hvl => ?_
  rw [hko, hvo, hkl, hvl] at hent
  rw [File.read_congr hs hent.head, File.read_congr hs hent.tail.head]

theorem parseItem_congr (f f' : File) (g : Bytes) (off : Nat) (hs : f.size = f'.size) (h : Agree (vhdxItem f g off) f f') :
    parseItem f g off = parseItem f' g off := by
  unfold vhdxItem at h
  unfold parseItem
  by_cases h1 : g = FILE_PARAMETERS_GUID
  · simp only [if_pos h1] at h ⊢
    rw [File.field_congr hs h.head file_parameters.block_size (by decide),
      File.field_congr hs h.head file_parameters.has_parent (by decide)]
  simp only [if_neg h1] at h ⊢
  by_cases h2 : g = VIRTUAL_DISK_SIZE_GUID
  · simp only [if_pos h2] at h ⊢
    rw [File.le_congr hs h.head]
  simp only [if_neg h2] at h ⊢
  by_cases h3 : g = VIRTUAL_DISK_ID_GUID
  · simp only [if_pos h3] at h ⊢
    rw [File.chars_congr hs h.head _ _ (by decide)]
  simp only [if_neg h3] at h ⊢
  by_cases h4 : g = LOGICAL_SECTOR_SIZE_GUID
  · simp only [if_pos h4] at h ⊢
    rw [File.le_congr hs h.head]
  simp only [if_neg h4] at h ⊢
  by_cases h5 : g = PHYSICAL_SECTOR_SIZE_GUID
  · simp only [if_pos h5] at h ⊢
    rw [File.le_congr hs h.head]
  simp only [if_neg h5] at h ⊢
  by_cases h6 : g = PARENT_LOCATOR_GUID
  · simp only [if_pos h6] at h ⊢
    exact parseLocator_congr f f' off hs h
  · rw [if_neg h6, if_neg h6]

/-- the item stage of `MetadataTable.__init__` -/
def metaItems (fh : File) (off : Nat) (raw : List (Bytes × Nat × Nat)) : Except Err (List (Option (Bytes × MetaItem))) :=
  raw.mapM fun (g, o, r) =>
    if ¬ (METADATA_MAP_KEYS.contains g) ∧ r = 0 then pure none
    else (parseItem fh g (off + o)).map (fun it => some (g, it))

theorem metadataTable_eq (fh : File) (off : Nat) :
    metadataTable fh off = (do
      let sig ← fh.chars off metadata_table_header.size metadata_table_header.signature.1 metadata_table_header.signature.2
      if sig ≠ "metadata".toUTF8.toList then throw .format
      let n ← fh.field off metadata_table_header.size metadata_table_header.entry_count
      let raw ← vhdxMetaRaw fh off n
      let items ← metaItems fh off raw
      pure (items.filterMap id)) := by
  unfold metadataTable vhdxMetaRaw metaItems
  rfl

theorem metaRaw_congr (f f' : File) (off n : Nat) (hs : f.size = f'.size)
    (h : EqOn (off + metadata_table_header.size) (n * metadata_table_entry.size) f f') :
    vhdxMetaRaw f off n = vhdxMetaRaw f' off n := by
  unfold vhdxMetaRaw
  refine mapM_congr fun i hi => ?_
  have hsub := h.entry (List.mem_range.1 hi)
  dsimp only
  rw [File.chars_congr hs hsub _ _ (by decide), File.field_congr hs hsub metadata_table_entry.offset (by decide),
    File.field_congr hs hsub metadata_table_entry.is_required (by decide)]

theorem metadataTable_congr (f f' : File) (off : Nat) (hs : f.size = f'.size) (h : Agree (vhdxMeta f off) f f') :
    metadataTable f off = metadataTable f' off := by
  unfold vhdxMeta at h
  have hh : EqOn off metadata_table_header.size f f' := h.head
  rw [metadataTable_eq, metadataTable_eq, ← File.chars_congr hs hh _ _ (by decide),
    ← File.field_congr hs hh metadata_table_header.entry_count (by decide)]
  refine bind_congr_ok fun sig _ => ite_congr rfl (fun _ => bind_congr_ok nofun) fun _ => (bind_congr_ok fun n hn => ?_)
  replace h := h.tail
  rw [hn] at h
  rw [← metaRaw_congr f f' off n hs h.head]
  refine bind_congr_ok fun raw hraw => congrArg (· >>= _) (mapM_congr fun e he => ?_)
  replace h := h.tail
  rw [hraw] at h
  obtain ⟨g, o, r⟩ := e
  dsimp only
  by_cases hskip : ¬ (METADATA_MAP_KEYS.contains g) ∧ r = 0
  · rw [if_pos hskip, if_pos hskip]
  · have hit : Agree (vhdxItem f g (off + o)) f f' := by
      have := h.unit he
      rwa [if_neg hskip] at this
    rw [if_neg hskip, if_neg hskip, parseItem_congr f f' g (off + o) hs hit]

theorem vhdx_open_footprint (f f' : File) (parent : Option SectorReader) (hag : AgreeOn (vhdxOpen f) f f') :
    Vhdx.open f' parent = (Vhdx.open f parent).map (fun v => { v with fh := f' }) := by
  have hs := hag.size
  have h : Agree (vhdxOpen f) f f' := hag.agree
  unfold vhdxOpen at h
  have h1 : EqOn (1 * ALIGNMENT) header.size f f' := h.tail.head
  have h2 : EqOn (2 * ALIGNMENT) header.size f f' := h.tail.tail.head
  have h5 := h.tail.tail.tail.right
  unfold Vhdx.open
  refine bind_map_congr (File.chars_congr hs h.head _ _ (by decide)) fun sig _ => ite_map_congr (fun _ => rfl) fun _ => ?_
  refine bind_map_congr (File.field_congr hs h1 header.sequence_number (by decide)) fun seq1 _ =>
    bind_map_congr (File.chars_congr hs h1 _ _ (by decide)) fun sig1 _ => ?_
  refine bind_map_congr (File.field_congr hs h2 header.sequence_number (by decide)) fun seq2 _ =>
    bind_map_congr (File.chars_congr hs h2 _ _ (by decide)) fun sig2 _ => ite_map_congr (fun _ => rfl) fun _ => ?_
  refine bind_map_congr (regionTable_congr f f' _ hs h.tail.tail.tail.left.left) fun rt1 hrt1 =>
    bind_map_congr (regionTable_congr f f' _ hs h.tail.tail.tail.left.right) fun rt2 _ => bind_map_congr rfl fun me hme => ?_
  rw [hrt1] at h5
  simp only [hme] at h5
  refine bind_map_congr (metadataTable_congr f f' _ hs h5) fun md _ => ?_
  cases metaGet md VIRTUAL_DISK_SIZE_GUID with | none => rfl | some it => ?_
  cases it with | diskSize size => ?_ | _ => rfl
  refine ite_map_congr (fun _ => rfl) fun _ => ?_
  cases metaGet md FILE_PARAMETERS_GUID with | none => rfl | some it => ?_
  cases it with | fileParameters blockSize hasParent => ?_ | _ => rfl
  cases metaGet md LOGICAL_SECTOR_SIZE_GUID with | none => rfl | some it => ?_
  cases it with | logicalSector sectorSize => ?_ | _ => rfl
  refine ite_map_congr (fun _ => rfl) fun _ => ?_
  cases metaGet md VIRTUAL_DISK_ID_GUID with | none => rfl | some it => ?_
  cases it with | diskId diskId => ?_ | _ => rfl
  refine ite_map_congr (fun _ => rfl) fun _ => ?_
  exact bind_map_congr rfl fun locator _ => bind_map_congr rfl fun be _ => ite_map_congr (fun _ => rfl) fun _ => rfl

end vhdxOpen

end Hv.Footprint
