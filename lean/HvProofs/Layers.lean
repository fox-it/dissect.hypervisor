/-
  VHDX `_iter_partial_runs` (C07): the runs it yields are the run-length encoding of the requested bits.  At the end: a base
  image as the last layer, a backing file shorter than the overlay.
-/
import Hv.Layers
import HvProofs.Basic
namespace Hv.Layers
open Hv Hv.Vhdx

theorem expand_append (a b : List (Nat × Nat)) : expand (a ++ b) = expand a ++ expand b := by
  induction a with
  | nil => rfl
  | cons r t ih => obtain ⟨x, c⟩ := r; simp [expand, ih]

theorem rleFrom_spec : ∀ (l : List Nat) (t c : Nat), 1 ≤ c →
    ∃ c' tl, rleFrom (t, c) l = (t, c') :: tl ∧ Alt ((t, c') :: tl) ∧ (∀ r ∈ (t, c') :: tl, 1 ≤ r.2) ∧
      expand ((t, c') :: tl) = List.replicate c t ++ l := by
  intro l
  induction l with
  | nil => intro t c hc; exact ⟨c, [], rfl, trivial, by simpa using hc, by simp [expand]⟩
  | cons b rest ih =>
    intro t c hc
    unfold rleFrom
    by_cases h : b = t
    · obtain ⟨c', tl, e, ha, hp, hx⟩ := ih t (c + 1) (by omega)
      rw [if_pos h, h]
      exact ⟨c', tl, e, ha, hp, by rw [hx, List.replicate_succ', List.append_assoc]; rfl⟩
    · obtain ⟨c', tl, e, ha, hp, hx⟩ := ih b 1 (Nat.le_refl 1)
      rw [if_neg h, e]
      refine ⟨c, _, rfl, ⟨fun e => h e.symm, ha⟩, ?_, ?_⟩
      · intro r hr
        rcases List.mem_cons.mp hr with rfl | hr
        · exact hc
        · exact hp r hr
      · rw [expand, hx]; rfl

theorem rle_spec (l : List Nat) : expand (rle l) = l ∧ Alt (rle l) ∧ ∀ r ∈ rle l, 1 ≤ r.2 := by
  cases l with
  | nil => exact ⟨rfl, trivial, fun r hr => by cases hr⟩
  | cons b rest =>
    obtain ⟨c', tl, e, ha, hp, hx⟩ := rleFrom_spec rest b 1 (Nat.le_refl 1)
    rw [rle, e]
    exact ⟨hx, ha, hp⟩

theorem expand_rle (l : List Nat) : expand (rle l) = l := (rle_spec l).1

theorem rleFrom_replicate : ∀ (m t k : Nat) (tail : List Nat),
    rleFrom (t, k) (List.replicate m t ++ tail) = rleFrom (t, k + m) tail := by
  intro m
  induction m with
  | zero => intro t k tail; rfl
  | succ m ih =>
    intro t k tail
    rw [List.replicate_succ, List.cons_append, rleFrom, if_pos rfl, ih, Nat.add_assoc, Nat.add_comm 1]

theorem rleFrom_expand : ∀ (runs : List (Nat × Nat)) (t c : Nat), Alt ((t, c) :: runs) → (∀ r ∈ runs, 1 ≤ r.2) →
    rleFrom (t, c) (expand runs) = (t, c) :: runs
  | [], _, _, _, _ => rfl
  | (t', c') :: rest, t, c, ha, hp => by
    obtain ⟨k, rfl⟩ : ∃ k, c' = k + 1 := ⟨c' - 1, by have := hp (t', c') (List.mem_cons_self ..); omega⟩
    have hne : ¬ t' = t := fun e => ha.1 e.symm
    rw [expand, List.replicate_succ, List.cons_append, rleFrom, if_neg hne, rleFrom_replicate, Nat.add_comm 1 k,
      rleFrom_expand rest t' (k + 1) ha.2 fun r hr => hp r (List.mem_cons_of_mem _ hr)]

/-- the three properties determine the run list -/
theorem rle_unique : ∀ (runs : List (Nat × Nat)), Alt runs → (∀ r ∈ runs, 1 ≤ r.2) → runs = rle (expand runs)
  | [], _, _ => rfl
  | (t, c) :: rest, ha, hp => by
    obtain ⟨k, rfl⟩ : ∃ k, c = k + 1 := ⟨c - 1, by have := hp (t, c) (List.mem_cons_self ..); omega⟩
    rw [expand, List.replicate_succ, List.cons_append, rle, rleFrom_replicate, Nat.add_comm 1 k,
      rleFrom_expand rest t (k + 1) ha fun r hr => hp r (List.mem_cons_of_mem _ hr)]

theorem bits_zero (bm : Bytes) (s : Nat) : bits bm s 0 = [] := by simp [bits]

theorem bits_length (bm : Bytes) (s n : Nat) : (bits bm s n).length = n := by simp [bits]

theorem bits_append (bm : Bytes) (s a b : Nat) : bits bm s (a + b) = bits bm s a ++ bits bm (s + a) b := by
  unfold bits
  rw [List.range_add, List.map_append, List.map_map]
  congr 1
  apply List.map_congr_left
  intro i _
  simp [Nat.add_assoc]

theorem bits_succ (bm : Bytes) (s n : Nat) : bits bm s (n + 1) = bitAt bm s :: bits bm (s + 1) n := by
  rw [Nat.add_comm, bits_append]; rfl

theorem bitAt_head (b : UInt8) (rest : Bytes) (i : Nat) (h : i < 8) : bitAt (b :: rest) i = bitOf b.toNat i := by
  unfold bitAt
  rw [Nat.div_eq_of_lt h, Nat.mod_eq_of_lt h]; rfl

theorem bitAt_tail (b : UInt8) (rest : Bytes) (i : Nat) : bitAt (b :: rest) (8 + i) = bitAt rest i := by
  unfold bitAt
  rw [Nat.add_div_left i (by decide), Nat.add_mod_left]; rfl

theorem bitOf_zero (i : Nat) : bitOf 0 i = 0 := by simp [bitOf]

theorem bitOf_ff : ∀ i, i < 8 → bitOf 255 i = 1 := by decide

theorem bitAt_eq_one {bm : Bytes} {i : Nat} (h : bitAt bm i ≠ 0) : bitAt bm i = 1 := by
  have : bitAt bm i < 2 := Nat.mod_lt _ (by decide)
  omega

theorem bits_head (b : UInt8) (rest : Bytes) (i m : Nat) (h : i + m ≤ 8) :
    bits (b :: rest) i m = (List.range m).map fun j => bitOf b.toNat (i + j) := by
  unfold bits
  apply List.map_congr_left
  intro j hj
  have : j < m := List.mem_range.mp hj
  exact bitAt_head b rest (i + j) (by omega)

theorem bits_tail (b : UInt8) (rest : Bytes) (n : Nat) : bits (b :: rest) 8 n = bits rest 0 n :=
  List.map_congr_left fun i _ => by rw [bitAt_tail, Nat.zero_add]

theorem bits_take (bm : Bytes) (s n m : Nat) : (bits bm s n).take m = bits bm s (min m n) := by
  unfold bits
  rw [← List.map_take, List.take_range]

theorem bits_cons (b : UInt8) (rest : Bytes) (i : Nat) (hi : i ≤ 8) :
    bits (b :: rest) i (8 * (b :: rest).length - i) = bits [b] i (8 - i) ++ bits rest 0 (8 * rest.length) := by
  have h8 : i + (8 - i) = 8 := Nat.add_sub_cancel' hi
  rw [List.length_cons, Nat.mul_succ, Nat.add_comm, Nat.sub_add_comm hi, bits_append, h8, bits_tail,
    bits_head b rest i _ (Nat.le_of_eq h8), bits_head b [] i _ (Nat.le_of_eq h8)]

/-- a byte that passes the whole-byte test consists of bits of the current kind -/
theorem bits_uniform (b : UInt8) (t i m : Nat) (hm : i + m ≤ 8) (h : (t = 0 ∧ b.toNat = 0) ∨ (t = 1 ∧ b.toNat = 0xFF)) :
    bits [b] i m = List.replicate m t := by
  rw [bits_head b [] i m hm, List.eq_replicate_iff]
  refine ⟨by simp, fun x hx => ?_⟩
  obtain ⟨j, hj, rfl⟩ := List.mem_map.mp hx
  have hj : j < m := List.mem_range.mp hj
  rcases h with ⟨rfl, hb⟩ | ⟨rfl, hb⟩
  · rw [hb]; exact bitOf_zero _
  · rw [hb]; exact bitOf_ff _ (by omega)

/-! the bytes `read_sectors` fetches from the sector bitmap for `n` sectors from bit `s` of the bitmap:
    `(bit_idx + read_count + 8 - 1) // 8` bytes at byte `s // 8`, with `bit_idx = s % 8` -/

theorem fetch_inside (s n T : Nat) (h : s + n ≤ T) : s / 8 + (s % 8 + n + 8 - 1) / 8 ≤ (T + 7) / 8 := by
  rw [Nat.add_comm, ← Nat.add_mul_div_left _ _ (by decide : 0 < 8)]
  exact Nat.div_le_div_right (by have := Nat.div_add_mod s 8; omega)

theorem bitAt_fetched (g : Nat → UInt8) (base s n j : Nat) (hj : j < n) :
    bitAt (slice g (base + s / 8) ((s % 8 + n + 8 - 1) / 8)) (s % 8 + j)
      = bitOf (g (base + (s + j) / 8)).toNat ((s + j) % 8) := by
  have hs : s + j = 8 * (s / 8) + (s % 8 + j) := by rw [← Nat.add_assoc, Nat.div_add_mod]
  unfold bitAt
  rw [List.getD_eq_getElem?_getD, List.getElem?_eq_getElem (by rw [slice_length]; omega), Option.getD_some,
    getElem_slice, hs, Nat.mul_add_div (by decide), Nat.mul_add_mod, Nat.add_assoc]

/-! ### the state machine of `_iter_partial_runs`, bit by bit -/

/-- one bit through the inner loop: the `s'` of `Vhdx.prBits` (Hv/Vhdx.lean), named (`rfl` links them);
    `PR.length` is what is left of the request, not a list length -/
def stepBit (s : PR) (t : Nat) : PR :=
  if t = s.curType then { s with curCount := s.curCount + 1, length := s.length - 1 }
  else { curType := t, curCount := 1, length := s.length - 1, out := (s.curType, s.curCount) :: s.out }

/-- the run loop of `_iter_partial_runs` taken one bit at a time: the state after the bits `l` -/
def feed (s : PR) (l : List Nat) : PR := l.foldl stepBit s

theorem feed_append (s : PR) (a b : List Nat) : feed s (a ++ b) = feed (feed s a) b := List.foldl_append

theorem feed_length : ∀ (l : List Nat) (s : PR), (feed s l).length = s.length - l.length := by
  intro l
  induction l with
  | nil => intro s; rfl
  | cons b rest ih =>
    intro s
    show (feed (stepBit s b) rest).length = _
    have hs : (stepBit s b).length = s.length - 1 := by unfold stepBit; split <;> rfl
    rw [ih, hs, List.length_cons, Nat.sub_sub, Nat.add_comm]

theorem prBits_eq_feed (byte : Nat) : ∀ (k i : Nat) (s : PR),
    prBits byte k i s = feed s ((List.range k).map fun j => bitOf byte (i + j)) := by
  intro k
  induction k with
  | zero => intro i s; rfl
  | succ k ih =>
    intro i s
    rw [List.range_succ_eq_map, List.map_cons, List.map_map, prBits, ih]
    show _ = feed (stepBit s (bitOf byte (i + 0))) _
    have e : (List.range k).map (fun j => bitOf byte (i + 1 + j))
        = (List.range k).map ((fun j => bitOf byte (i + j)) ∘ Nat.succ) :=
      List.map_congr_left fun j _ => congrArg (bitOf byte) (by omega)
    rw [e]
    rfl

/-- the whole-byte shortcut is `feed` over `m` bits of the current kind -/
theorem feed_replicate : ∀ (m : Nat) (s : PR),
    feed s (List.replicate m s.curType) = { s with curCount := s.curCount + m, length := s.length - m } := by
  intro m
  induction m with
  | zero => intro s; rfl
  | succ m ih =>
    intro s
    rw [List.replicate_succ]
    show feed (stepBit s s.curType) _ = _
    have e : stepBit s s.curType = { s with curCount := s.curCount + 1, length := s.length - 1 } := if_pos rfl
    rw [e, ih { s with curCount := s.curCount + 1, length := s.length - 1 }]
    simp only [Nat.add_assoc, Nat.sub_sub, Nat.add_comm 1 m]

theorem prBytes_cons (b : UInt8) (rest : Bytes) (i : Nat) (s : PR) (hi : i ≤ 8) :
    prBytes (b :: rest) i s = prBytes rest 0 (feed s ((bits [b] i (8 - i)).take s.length)) := by
  rw [prBytes, bits_take]
  split
  · rename_i hu
    rw [bits_uniform b s.curType i _ (by omega) hu, feed_replicate]
  · show prBytes rest 0 (prBits b.toNat (min (i + s.length) 8 - i) i s) = _
    rw [prBits_eq_feed, ← Nat.sub_min_sub_right, Nat.add_sub_cancel_left, bits_head b [] i _ (by omega)]

theorem prBytes_eq_feed : ∀ (bytes : Bytes) (startIdx : Nat) (s : PR), startIdx ≤ 8 →
    prBytes bytes startIdx s = feed s ((bits bytes startIdx (8 * bytes.length - startIdx)).take s.length) := by
  intro bytes
  induction bytes with
  | nil => intro i s _; rw [List.length_nil, Nat.mul_zero, Nat.zero_sub, bits_zero, List.take_nil]; rfl
  | cons b rest ih =>
    intro i s hi
    have hlen : ∀ L k : Nat, L - min L k = L - k := by omega
    rw [prBytes_cons b rest i s hi, ih 0 _ (Nat.zero_le 8), feed_length, bits_cons b rest i hi, List.take_append,
      feed_append, List.length_take, bits_length, hlen, Nat.sub_zero]

/-- what `_iter_partial_runs` yields when the loop ends in state `s` (the runs put out, then the pending run): the last
    line of `Vhdx.iterPartialRuns`, named -/
def finish (s : PR) : List (Nat × Nat) :=
  (if s.curCount ≠ 0 then (s.curType, s.curCount) :: s.out else s.out).reverse

theorem finish_feed : ∀ (l : List Nat) (s : PR), 1 ≤ s.curCount →
    finish (feed s l) = s.out.reverse ++ rleFrom (s.curType, s.curCount) l := by
  intro l
  induction l with
  | nil =>
    intro s hs
    have : s.curCount ≠ 0 := by omega
    simp [feed, finish, this, rleFrom]
  | cons b rest ih =>
    intro s hs
    show finish (feed (stepBit s b) rest) = _
    unfold stepBit rleFrom
    by_cases h : b = s.curType
    · simp only [h, if_true]
      rw [ih _ (by simp)]
    · simp only [h, if_false]
      rw [ih _ (by simp)]
      simp

/-- the runs are the run-length encoding of the bits `[start, start+len)` as far as the bitmap reaches -/
theorem iterPartialRuns_eq (bm : Bytes) (start len : Nat) (hs : start < 8) (hne : bm ≠ []) :
    iterPartialRuns bm start len = .ok (rle (bits bm start (min len (8 * bm.length - start)))) := by
  cases bm with
  | nil => exact absurd rfl hne
  | cons b0 rest =>
    unfold iterPartialRuns
    simp only
    rw [prBytes_eq_feed _ _ _ (by omega), bits_take]
    simp only
    generalize hn : min len (8 * (b0 :: rest).length - start) = n
    cases n with
    | zero => simp [bits, feed, rle]
    | succ n =>
      rw [bits_succ, bitAt_head b0 rest start hs]
      show Except.ok (finish (feed (stepBit _ _) _)) = _
      have e : stepBit ⟨bitOf b0.toNat start, 0, len, []⟩ (bitOf b0.toNat start)
          = ⟨bitOf b0.toNat start, 1, len - 1, []⟩ := by simp [stepBit]
      -- the model writes the first bit as `(b0 / 2 ^ start) % 2`, which is `bitOf` unfolded
      have e' : (b0.toNat / 2 ^ start) % 2 = bitOf b0.toNat start := rfl
      rw [e', e, finish_feed _ _ (by simp)]
      simp [rle]

theorem iterPartialRuns_fit (bm : Bytes) (start len : Nat) (hs : start < 8) (hne : bm ≠ [])
    (hfit : start + len ≤ 8 * bm.length) : iterPartialRuns bm start len = .ok (rle (bits bm start len)) := by
  rw [iterPartialRuns_eq bm start len hs hne, Nat.min_eq_left (Nat.le_sub_of_add_le' hfit)]

theorem overlayOn_base (ls : List Layer) (c : Nat → UInt8) :
    overlayOn (ls ++ [Layer.base c]) (fun _ => 0) = overlayOn ls c := by
  induction ls with
  | nil => funext o; simp [overlayOn, Layer.over, Layer.base]
  | cons l rest ih => simp only [List.cons_append, overlayOn, ih]

theorem slice_padTo (c : Nat → UInt8) (size off len : Nat) :
    slice c off (min len (size - off)) ++ zeros (len - min len (size - off)) = slice (padTo c size) off len := by
  generalize hk : min len (size - off) = k
  have h1 : k ≤ len := hk ▸ Nat.min_le_left ..
  have h2 : ∀ i, i < k → off + i < size := fun i hi =>
    Nat.add_lt_of_lt_sub' (Nat.lt_of_lt_of_le hi (hk ▸ Nat.min_le_right ..))
  have h3 : k < len → size ≤ off + k := by omega
  clear hk
  conv => rhs; rw [← Nat.add_sub_cancel' h1, slice_append]
  congr 1
  · exact slice_congr fun i hi => by rw [padTo, if_pos (h2 i hi)]
  · exact zeros_eq_slice _ _ _ fun i hi => by rw [padTo, if_neg (by omega)]

end Hv.Layers
