/-
  Compressed (stream-optimised) VMDK sparse extents: `read_sectors` returns the guest content `guestC`
  (grain records inflate to grain contents: `WFc.inflates`).
-/
import Hv.VmdkComp
import HvProofs.Vmdk
namespace Hv.Vmdk
open Hv Hv.Extracted.vmdk

theorem grain_payload (f : File) (a h c : Nat) (hin : a + h + c ≤ f.size) :
    ((if c + h > 512 then f.read a 512 ++ f.read (a + 512) (h + c - 512) else f.read a 512).drop h).take c
      = slice f.byte (a + h) c := by
  by_cases hbig : c + h > 512
  · rw [if_pos hbig, File.read_eq_slice (by omega), File.read_eq_slice (by omega),
      ← slice_append, slice_drop (by omega), slice_take (by omega)]
  · rw [if_neg hbig, read_drop_take f _ _ h c (by omega) hin]

theorem LBA_HDR_LEN_eq : LBA_HDR_LEN = 12 := by decide
theorem PLAIN_HDR_LEN_eq : PLAIN_HDR_LEN = 4 := by decide

theorem readCompressedGrain_ok (v : Sparse) (s : Nat) (hin : s * 512 + v.cHdrLen + v.cSize s ≤ v.fh.size) :
    v.readCompressedGrain s = v.inflate (v.cPayload s) (v.grainSize * 512) := by
  rw [Sparse.cPayload, Sparse.readCompressedGrain, S_eq, Nat.succ_mul]
  generalize hH : v.cHdrLen = hdr
  generalize hC : v.cSize s = csz
  rw [hH, hC] at hin
  -- `obtain`, not `generalize s * 512`: that would compare `s * 512` with `grainSize * 512` by unfolding the multiplication
  obtain ⟨a, ha⟩ : ∃ a, s * 512 = a := ⟨_, rfl⟩
  rw [ha] at hin ⊢
  have hlen : (v.fh.read a 512).length = min 512 (v.fh.size - a) := slice_length _ _ _
  by_cases hE : v.flags &&& SPARSEFLAG_EMBEDDED_LBA ≠ 0
  · have hH' : LBA_HDR_LEN = hdr := (if_pos hE).symm.trans hH
    have hC' := (if_pos hE).symm.trans hC
    rw [ha] at hC'
    have h12 : hdr = 12 := hH'.symm.trans LBA_HDR_LEN_eq
    rw [h12] at hin
    have hhdr : a + 8 + 4 ≤ v.fh.size := Nat.le_trans (Nat.le_add_right (a + 12) csz) hin
    have hshort : ¬ (v.fh.read a 512).length < SparseGrainLBAHeaderOnDisk.size := by
      rw [hlen]
      exact Nat.not_lt.2 (Nat.le_min.2 ⟨by decide, Nat.le_sub_of_add_le' hhdr⟩)
    have hfield := read_drop_take v.fh a 512 SparseGrainLBAHeaderOnDisk.cmp_size.off
      SparseGrainLBAHeaderOnDisk.cmp_size.width (by decide) hhdr
    rw [← h12] at hin
    simp only [if_pos hE, hshort, if_false, hfield, hC', hH', bind, Except.bind]
    rw [grain_payload v.fh a hdr csz hin]
  · have hH' : PLAIN_HDR_LEN = hdr := (if_neg hE).symm.trans hH
    have hC' := (if_neg hE).symm.trans hC
    rw [ha] at hC'
    have h4 : hdr = 4 := hH'.symm.trans PLAIN_HDR_LEN_eq
    rw [h4] at hin
    have hhdr : a + 0 + 4 ≤ v.fh.size := Nat.le_trans (Nat.le_add_right (a + 4) csz) hin
    have hshort : ¬ (v.fh.read a 512).length < 4 := by
      rw [hlen]
      exact Nat.not_lt.2 (Nat.le_min.2 ⟨by decide, Nat.le_sub_of_add_le' hhdr⟩)
    have hfield := read_drop_take v.fh a 512 0 4 (by decide) hhdr
    rw [← h4] at hin
    rw [List.drop_zero, Nat.add_zero] at hfield
    simp only [if_neg hE, hshort, if_false, hfield, hC', hH', bind, Except.bind]
    rw [grain_payload v.fh a hdr csz hin]

theorem readCompressedRun_zero (v : Sparse) (fuel t off : Nat) : v.readCompressedRun fuel t off 0 = .ok [] := by
  cases fuel <;> simp [Sparse.readCompressedRun]

theorem guestC_eq (v : Sparse) (content : Nat → Bytes) (pc : Nat → UInt8) (o : Nat) : v.guestC content pc o =
    if v.specGrain (o / 512 / v.grainSize) = 0 then (if v.parent.isSome then pc (v.sectorOffset * 512 + o) else 0)
    else if v.specGrain (o / 512 / v.grainSize) = 1 then 0
    else (content (o / 512 / v.grainSize)).getD (o % (v.grainSize * 512)) 0 := rfl

theorem grain_room (G rs n cap : Nat) (hfit : rs % G + n ≤ G) (hcap : rs + n ≤ cap) :
    rs % G + n ≤ min ((rs / G + 1) * G) cap - rs / G * G := by
  have hdm := Nat.div_add_mod rs G
  rw [Nat.succ_mul, Nat.mul_comm (rs / G)]
  generalize G * (rs / G) = Q at *
  omega

theorem shift_run (G a j t : Nat) (h : a + 1 ≤ j) : t + (j - a) * G = t + G + (j - (a + 1)) * G := by
  obtain ⟨d, rfl⟩ := Nat.exists_eq_add_of_le h
  rw [Nat.add_sub_cancel_left, Nat.add_assoc a, Nat.add_sub_cancel_left, Nat.add_mul, Nat.one_mul, Nat.add_assoc]

theorem grain_of_lt (G rs n j : Nat) (hfit : rs % G + n ≤ G) (h1 : rs / G ≤ j) (h2 : j * G < rs + n) : j = rs / G := by
  have hdm := Nat.div_add_mod rs G
  have hlt : j * G < (rs / G + 1) * G := by
    rw [Nat.add_mul, Nat.one_mul, Nat.mul_comm (rs / G)]
    omega
  have := Nat.lt_of_mul_lt_mul_right hlt
  omega

/-- what the loop of `get_runs` knows about a pending run of compressed grains covering `[start, rs)`: where it starts
    inside its first grain, that the records of the grains it covers sit one grain size apart, and that `next` is where
    the record of the following grain has to sit -/
def allocC (v : Sparse) (start rs remaining : Nat) (c : Cur) : Prop :=
  c.offset = start % v.grainSize ∧
    (∀ j, start / v.grainSize ≤ j → j * v.grainSize < rs →
      v.specGrain j = c.type + (j - start / v.grainSize) * v.grainSize) ∧
    (0 < remaining → c.next = c.type + (rs / v.grainSize - start / v.grainSize) * v.grainSize)

theorem grain_piece (v : Sparse) (content : Nat → Bytes) (pc : Nat → UInt8) (hwf : WFc v content) (rs n : Nat)
    (hn : 0 < n) (hfit : rs % v.grainSize + n ≤ v.grainSize) (hcap : rs + n ≤ v.capacity)
    (hgt : 1 < v.specGrain (rs / v.grainSize)) :
    ((content (rs / v.grainSize)).drop (rs % v.grainSize * 512)).take (n * 512)
      = slice (v.guestC content pc) (rs * 512) (n * 512) := by
  have hgs := hwf.gs_pos
  have hlen := (hwf.inflates _ (div_lt_nGrains v rs hgs (Nat.lt_of_lt_of_le (Nat.lt_add_of_pos_right hn) hcap)) hgt).2
  have hroom := Nat.mul_le_mul_right 512 (grain_room v.grainSize rs n v.capacity hfit hcap)
  have hneed : rs % v.grainSize * 512 + n * 512 ≤ (content (rs / v.grainSize)).length := by
    rw [← Nat.add_mul]
    exact Nat.le_trans hroom hlen
  have hne0 := Nat.ne_of_gt (Nat.lt_trans Nat.zero_lt_one hgt)
  have hne1 := Nat.ne_of_gt hgt
  apply List.ext_getElem
  · rw [List.length_take, List.length_drop, slice_length]
    exact Nat.min_eq_left (Nat.le_sub_of_add_le' hneed)
  · intro i h1 h2
    rw [slice_length] at h2
    obtain ⟨b1, _, _, b2⟩ := piece_bytes v.grainSize rs n i hgs hfit h2
    have hidx : rs % v.grainSize * 512 + i < (content (rs / v.grainSize)).length :=
      Nat.lt_of_lt_of_le (Nat.add_lt_add_left h2 _) hneed
    rw [List.getElem_take, List.getElem_drop, getElem_slice, guestC_eq, b1,
      if_neg hne0, if_neg hne1, b2, List.getD_eq_getElem?_getD, List.getElem?_eq_getElem hidx]
    rfl

/-- a run of compressed grains whose records sit one grain size apart (which is what the merge condition of
    `get_runs` establishes) reads as the guest content -/
theorem readCompressedRun_ok (v : Sparse) (content : Nat → Bytes) (pc : Nat → UInt8) (hwf : WFc v content) :
    ∀ fuel t start cnt, cnt ≤ fuel → start + cnt ≤ v.capacity → 1 < t →
      (∀ j, start / v.grainSize ≤ j → j * v.grainSize < start + cnt →
        v.specGrain j = t + (j - start / v.grainSize) * v.grainSize) →
      v.readCompressedRun fuel t (start % v.grainSize) cnt
        = .ok (slice (v.guestC content pc) (start * 512) (cnt * 512)) := by
  have hgs := hwf.gs_pos
  intro fuel
  induction fuel with
  | zero =>
    intro t start cnt h _ _ _
    obtain rfl : cnt = 0 := Nat.le_zero.1 h
    rw [readCompressedRun_zero, Nat.zero_mul, slice_zero]
  | succ fuel ih =>
    intro t start cnt hf hcap ht hsp
    by_cases hz : cnt = 0
    · rw [hz, readCompressedRun_zero, Nat.zero_mul, slice_zero]
    generalize hn : min cnt (v.grainSize - start % v.grainSize) = n
    obtain ⟨hn1, hn2, hfit, hnext⟩ := block_step hgs hz hn
    -- the first grain: its record is at `t`
    have hlt : start < start + cnt := Nat.lt_add_of_pos_right (Nat.pos_of_ne_zero hz)
    have hspec : v.specGrain (start / v.grainSize) = t := by
      rw [hsp _ (Nat.le_refl _) (Nat.lt_of_le_of_lt (Nat.div_mul_le_self start v.grainSize) hlt), Nat.sub_self,
        Nat.zero_mul, Nat.add_zero]
    have hg : start / v.grainSize < v.nGrains := div_lt_nGrains v start hgs (Nat.lt_of_lt_of_le hlt hcap)
    have hrec := hwf.record_in _ hg (hspec ▸ ht)
    have hinf := (hwf.inflates _ hg (hspec ▸ ht)).1
    rw [hspec] at hrec hinf
    have hpiece := grain_piece v content pc hwf start n hn1 hfit (Nat.le_trans (Nat.add_le_add_left hn2 _) hcap) (hspec ▸ ht)
    -- the following grains: their records start one grain size further
    have hrest : v.readCompressedRun fuel (t + v.grainSize) 0 (cnt - n)
        = .ok (slice (v.guestC content pc) ((start + n) * 512) ((cnt - n) * 512)) := by
      by_cases hr : cnt - n = 0
      · rw [hr, readCompressedRun_zero, Nat.zero_mul, slice_zero]
      · obtain ⟨e1, e2⟩ := hnext hr
        have hend : start + n + (cnt - n) = start + cnt := by rw [Nat.add_assoc, Nat.add_sub_cancel' hn2]
        have := ih (t + v.grainSize) (start + n) (cnt - n)
          (Nat.sub_le_of_le_add (Nat.le_trans hf (Nat.add_le_add_left hn1 _))) (hend ▸ hcap)
          (Nat.lt_of_lt_of_le ht (Nat.le_add_right _ _)) (fun j hj1 hj2 => by
            rw [e1] at hj1 ⊢
            rw [hsp j (Nat.le_of_succ_le hj1) (hend ▸ hj2), shift_run _ _ _ _ hj1])
        rwa [e2] at this
    rw [Sparse.readCompressedRun]
    simp only [hz, if_false, hn, readCompressedGrain_ok v t hrec, hinf, S_eq, bind, Except.bind, hpiece, hrest]
    rw [← slice_append_mul, Nat.add_sub_cancel' hn2]

theorem runsOK_compressed (v : Sparse) (content : Nat → Bytes) (pc : Nat → UInt8) (hwf : WFc v content)
    (hp : ParentOK v pc) : RunsOK v pc (v.guestC content pc) (allocC v) where
  gs_pos := hwf.gs_pos
  lookup := hwf.lookup
  parent := hp
  hole0 := fun o h => if_pos h
  hole1 := fun o h => (if_neg fun h0 => absurd (h0.symm.trans h) Nat.zero_ne_one).trans (if_pos h)
  fresh := fun rs rc n ⟨hcap, hrc, hn⟩ hgt => by
    obtain ⟨_, _, hfit, hnext⟩ := block_step hwf.gs_pos (Nat.ne_of_gt hrc) hn
    refine ⟨rfl, fun j hj1 hj2 => ?_, fun hr => ?_⟩
    · rw [grain_of_lt v.grainSize rs n j hfit hj1 hj2, Nat.sub_self, Nat.zero_mul]
      rfl
    · show v.specGrain (rs / v.grainSize) + v.grainSize = _
      rw [(hnext (Nat.ne_of_gt hr)).1, Nat.add_sub_cancel_left, Nat.one_mul]
  grow := fun start rs rc n c ⟨hcap, hrc, hn⟩ hrs0 hcnt hgt hlook ⟨q1, q2, q3⟩ => by
    obtain ⟨_, _, hfit, hnext⟩ := block_step hwf.gs_pos (Nat.ne_of_gt hrc) hn
    have hge : start / v.grainSize ≤ rs / v.grainSize := Nat.div_le_div_right (hcnt ▸ Nat.le_add_right _ _)
    refine ⟨q1, fun j hj1 hj2 => ?_, fun hr => ?_⟩
    · by_cases hold : j * v.grainSize < rs
      · exact q2 j hj1 hold
      · -- the grain that is taken in: `j = rs / grainSize`, whose entry is `next`
        have hdm := Nat.div_add_mod rs v.grainSize
        have hle : rs / v.grainSize * v.grainSize ≤ j * v.grainSize := by
          rw [Nat.mul_comm (rs / v.grainSize)]
          omega
        rw [grain_of_lt v.grainSize rs n j hfit (Nat.le_of_mul_le_mul_right hle hwf.gs_pos) hj2, hlook]
        exact q3 hrc
    · show c.next + v.grainSize = _
      rw [(hnext (Nat.ne_of_gt hr)).1, q3 hrc, Nat.add_assoc, ← Nat.succ_mul, Nat.succ_sub hge]
  data := fun start rs rem c hcnt hcap hgt ⟨q1, q2, _⟩ => by
    have hcomp : ¬ v.flags &&& SPARSEFLAG_COMPRESSED = 0 := hwf.compressed
    simp only [Sparse.runData, Cur.toRun, Nat.ne_of_gt (Nat.lt_trans Nat.zero_lt_one hgt), Nat.ne_of_gt hgt, if_false,
      hcomp, q1]
    exact readCompressedRun_ok v content pc hwf c.count c.type start c.count (Nat.le_refl _) (hcnt ▸ hcap) hgt
      (fun j hj1 hj2 => q2 j hj1 (hcnt ▸ hj2))

/-- `_hs`: as in `sparse_readSectors_correct` -/
theorem compressed_readSectors_correct (v : Sparse) (content : Nat → Bytes) (pc : Nat → UInt8) (hwf : WFc v content)
    (hp : ParentOK v pc) (sector count : Nat) (_hs : v.sectorOffset ≤ sector)
    (hin : sector - v.sectorOffset + count ≤ v.capacity) :
    v.readSectors sector count
      = .ok (slice (v.guestC content pc) ((sector - v.sectorOffset) * 512) (count * 512)) :=
  (runsOK_compressed v content pc hwf hp).readSectors sector count hin

theorem wfbC_sound (v : Sparse) (h : v.wfbC = true) : WFc v v.contentOf := by
  unfold Sparse.wfbC at h
  simp only [Bool.and_eq_true, decide_eq_true_eq, List.all_eq_true, List.mem_range, Bool.or_eq_true] at h
  obtain ⟨⟨⟨⟨h1, h2⟩, h3⟩, h4⟩, h5⟩ := h
  refine ⟨h1, h2, h3, h4, fun g hg => (h5 g hg).1, fun g hg hgt => ?_, fun g hg hgt => ?_⟩
  · rcases (h5 g hg).2 with h | h
    · exact absurd hgt (Nat.not_lt_of_le h)
    · exact h.1
  · rcases (h5 g hg).2 with h | h
    · exact absurd hgt (Nat.not_lt_of_le h)
    · have h2 := h.2
      unfold Sparse.contentOf
      cases hi : v.inflate (v.cPayload (v.specGrain g)) (v.grainSize * 512) with
      | error e => rw [hi] at h2; simp at h2
      | ok b =>
        rw [hi] at h2
        simp only [decide_eq_true_eq] at h2
        exact ⟨rfl, h2⟩

/-! a concrete stream-optimised extent for the non-vacuity example: one grain table (sector 1) with two entries, grain
    0 stored as a record at sector 2 (`cmpSize = 1`, payload `0x41`), grain 1 absent; a toy "inflate" that expands a
    payload byte to one grain -/
def exCFile : File := ⟨1536, fun p => if p = 512 then 2 else if p = 1024 then 1 else if p = 1028 then 0x41 else 0⟩
def exC : Sparse :=
  { fh := exCFile, kind := .hosted, flags := 0x10000, capacity := 2, grainSize := 1, gtSize := 2, gd := #[1],
    grainTablesOffset := 0, grainsOffset := 0, sectorOffset := 0, parent := none,
    inflate := fun p n => .ok (List.replicate n (p.headD 0)) }

end Hv.Vmdk
