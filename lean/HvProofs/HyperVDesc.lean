/- Hyper-V VMCX/VMRS (C17): where the byte level (HyperVLoad) and the tree assembly (HyperVTree) meet — a well-formed
   description is encoded by the file the writer lays out (`desc_encodes`). -/
import HvProofs.HyperVTree
import HvProofs.HyperVLoad
namespace Hv.HyperV
open Hv Hv.Extracted.hyperv

/-! ### a declaratively stored value (`storesb`) is what `.value` returns -/

theorem Phys.read_blob (d : Phys) (h : d.WF) (b : Nat × Bytes) (hb : b ∈ d.blobs) (m : Nat) (hm : m ≤ b.2.length) :
    d.file.read b.1 m = b.2.take m := by
  obtain ⟨ha, hs⟩ := d.seg_facts h (d.blob_mem hb)
  rw [File.read_eq_slice (by omega)]
  have := ha.sub 0 m (by omega)
  simpa using this

theorem keyOf_of_stored (e : Entry) (k : Bytes) (h1 : storedKey e = k) (h2 : validUtf8 k = true) : keyOf e = .ok k := by
  unfold storedKey at h1
  simp only [keyOf, h1, h2, if_true]

theorem storesb_sound (d : Phys) (h : d.WF) (fos : List (Nat × Nat)) (e : Entry) (v : Value)
    (hs : storesb d.blobs fos e v = true) : valueOf d.file fos e = .ok v := by
  unfold storesb at hs
  simp only [Bool.and_eq_true, decide_eq_true_eq] at hs
  obtain ⟨⟨hkind, hr⟩, hrest⟩ := hs
  unfold valueOf entryData
  generalize e.body.drop e.dataOffset = p at hrest ⊢
  cases hfo : e.isFo with
  | false =>
    rw [hfo] at hrest
    simp only [Bool.false_eq_true, if_false] at hrest ⊢
    rw [hkind]
    -- the bytes at `data_offset` start with the value's encoding
    have inline : p.take (encodeValue v).length = encodeValue v → decodeValue v.typ false p = .ok v := fun hw => by
      rw [← List.take_append_drop (encodeValue v).length p, hw]
      exact decodeValue_encodeValue v hr _
    cases v with
    | bool b =>
      simp only [Bool.and_eq_true, decide_eq_true_eq, beq_iff_eq] at hrest
      rw [Value.typ, decodeValue_bool_word _ _ hrest.1, hrest.2]
    | _ => exact inline (by simpa using hrest)
  | true =>
    rw [hfo] at hrest
    simp only [if_true, Bool.and_eq_true, decide_eq_true_eq] at hrest
    obtain ⟨⟨hsv, hlen⟩, ho, hlk⟩ := hrest
    cases hl : fos.lookup (leNat ((p.drop 4).take 8)) with
    | none => rw [hl] at hlk; cases hlk
    | some osz =>
      rw [hl] at hlk
      simp only [List.any_eq_true, Bool.and_eq_true, beq_iff_eq, decide_eq_true_eq] at hlk
      obtain ⟨b, hb, ⟨hb1, hb2⟩, hb3⟩ := hlk
      simp only [if_true, hlen, ne_eq, not_true_eq_false, if_false, hl]
      rw [if_neg (by omega), ← hb1, d.read_blob h b hb _ hb2, hb3, hkind]
      cases v with
      | str us => exact decodeValue_fo_unitsBytes us hr.1 hr.2.1
      | bytes bs => exact decodeValue_bytes_fo bs
      | _ => cases hsv

/-! ### the decidable check `encTb` implies `EncT` on the written file; `Desc.WF` implies `Encodes` -/

theorem encLb_sound (d : Phys) (fos : List (Nat × Nat)) (all : List (Nat × Entry)) :
    ∀ (cs : List (Bytes × Tree)), (∀ kt ∈ cs, ∀ ie, encTb d.blobs fos all kt.2 ie = true → EncT d.file fos all kt.2 ie) →
      ∀ (ies : List (Nat × Entry)), encTb.encLb d.blobs fos all cs ies = true → EncT.EncL d.file fos all cs ies
  | [], _, ies, hb => by
    simp only [encTb.encLb, List.isEmpty_iff] at hb
    simp only [EncT.EncL]
    exact hb
  | (k, t) :: cs, _, [], hb => by simp [encTb.encLb] at hb
  | (k, t) :: cs, ih, ie :: rest, hb => by
    simp only [encTb.encLb, Bool.and_eq_true, decide_eq_true_eq] at hb
    simp only [EncT.EncL]
    exact ⟨ie, rest, rfl, keyOf_of_stored ie.2 k hb.1.1.1 hb.1.1.2, ih (k, t) (by simp) ie hb.1.2,
      encLb_sound d fos all cs (fun kt hkt => ih kt (by simp [hkt])) rest hb.2⟩

theorem encTb_sound (d : Phys) (h : d.WF) (fos : List (Nat × Nat)) (all : List (Nat × Entry)) :
    ∀ (t : Tree) (ie : Nat × Entry), encTb d.blobs fos all t ie = true → EncT d.file fos all t ie := by
  refine Tree.induct (fun v ie hb => ?_) (fun cs ih ie hb => ?_)
  · simp only [encTb, Bool.and_eq_true, decide_eq_true_eq] at hb
    simp only [EncT]
    exact ⟨hb.1, storesb_sound d h fos ie.2 v hb.2⟩
  · simp only [encTb, Bool.and_eq_true, decide_eq_true_eq] at hb
    simp only [EncT]
    exact ⟨hb.1.1, hb.1.2, encLb_sound d fos all cs ih _ hb.2⟩

theorem desc_encodes (d : Desc) (h : d.WF) :
    Encodes { tables := d.phys.regTables, act := d.act, fos := d.phys.regFos } d.cs d.file := by
  obtain ⟨hp, hact, hlink, hnd, henc⟩ := h
  obtain ⟨reg, e1, e2, e3⟩ := load_encode d.phys hp
  refine ⟨⟨reg, e1, e2, e3⟩, hact, ?_, hnd, encLb_sound d.phys _ _ _ (fun kt _ => encTb_sound d.phys hp _ _ kt.2) _ henc⟩
  intro ie hie
  obtain ⟨a, b⟩ := hlink ie hie
  exact ⟨a, storedKey ie.2, keyOf_of_stored ie.2 _ rfl b⟩

theorem rootsAreNodes_spec (d : Desc) (h : d.rootsAreNodes = true) : ∀ kt ∈ d.cs, ∃ cs', kt.2 = .node cs' := by
  intro kt hkt
  unfold Desc.rootsAreNodes at h
  have := List.all_eq_true.1 h kt hkt
  cases hk : kt.2 with
  | node cs' => exact ⟨cs', rfl⟩
  | leaf v => rw [hk] at this; simp [isNode] at this

/-! ### a concrete description for the non-vacuity examples: the key tables of `exFile` (HyperV.lean) inside a `Desc` laid out
    by the writer over two object tables -/

/-- second header active; object table 0 lists the active table of index 1, the table of index 2, a second object table
    and itself; object table 1 lists the File object, the stale copy of index 1 (registered *after* the active one), the
    same copy unallocated, a replay log and a Free entry pointing nowhere -/
def exDesc : Desc :=
  { phys :=
      { h1 := ⟨SIGNATURE_STORAGE_HEADER, 0, 1, VERSION, 0, 0x1000, 0x3000, 0x1000, 0x1000⟩
        h2 := ⟨SIGNATURE_STORAGE_HEADER, 7, 2, VERSION, 0, 0x1000, 0x3000, 0x1000, 0x1000⟩
        logs := [⟨0x3000, 0, 1, zeros 22 ++ List.replicate 28 0xAB ++ [1, 2, 3]⟩]
        ots := [⟨0x2000, [⟨otKeyTable, 0, 0x4000, KTH + totalSize exT1, 1⟩, ⟨otKeyTable, 5, 0x6000, KTH + totalSize exT2 + EH + 3, 1⟩,
                          ⟨otObjectTable, 0, 0x2400, 98, 1⟩, ⟨otObjectTable, 0, 0x2000, 80, 1⟩]⟩,
                ⟨0x2400, [⟨otFile, 0, 0x7000, 0x1000, 1⟩, ⟨otKeyTable, 0, 0x5000, KTH + totalSize exT1old, 2⟩,
                          ⟨otKeyTable, 0, 0x5000, KTH + totalSize exT1old, 0⟩, ⟨otReplayLog, 0, 0x3000, 34, 1⟩, ⟨4, 9, 2 ^ 40, 7, 1⟩]⟩]
        kts := [⟨0x4000, 1, 5, 0, exT1, none⟩, ⟨0x5000, 1, 1, 0, exT1old, none⟩, ⟨0x6000, 2, 9, 0xFFFF, exT2, some [9, 9, 9]⟩]
        blobs := [(0x7000, unitsBytes [104, 105] ++ [0xEE, 0xEE])]
        size := 0x8000 }
    cs := [([99, 102, 103], .node [([110], .leaf (.int (-5))), ([117], .leaf (.uint (2 ^ 64 - 1))), ([115], .leaf (.str [104, 105])),
             ([98], .leaf (.bool true)), ([100], .leaf (.double 0x7FF8000000000001))])] }

theorem exDesc_wf : exDesc.WF := by decide +kernel

end Hv.HyperV
