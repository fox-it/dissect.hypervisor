/-
  C16 — ESXi envelope and keystore: decrypt round-trips and is authenticated.
  Model: Hv/Envelope.lean (over abstract crypto `Crypto`: SHA-256, PBKDF2, AES-GCM are parameters); lemmas: HvProofs/Envelope.lean.
-/
import HvProofs.Envelope
namespace Hv.C16
open Hv Hv.Envelope

/-! ### extracted constants / layouts / literals = the format's values -/

theorem block_size_spec : Extracted.envelope.ENVELOPE_BLOCK_SIZE = 4096 := by decide
theorem file_header_layout_spec :
    Extracted.envelope.EnvelopeFileHeader.size = 512 ∧ Extracted.envelope.EnvelopeFileHeader.magic = (0, 21) ∧
    Extracted.envelope.EnvelopeFileHeader.size_field = ⟨504, 4, false, 0, 32⟩ ∧
    Extracted.envelope.EnvelopeFileHeader.version = ⟨508, 4, false, 0, 32⟩ := by decide
theorem aead_footer_layout_spec :
    Extracted.envelope.DataTransformAeadFooter.size = 4096 ∧ Extracted.envelope.DataTransformAeadFooter.data = (32, 4056) ∧
    Extracted.envelope.DataTransformAeadFooter.size_field = ⟨4088, 4, false, 0, 32⟩ ∧
    Extracted.envelope.DataTransformAeadFooter.version = ⟨4092, 4, false, 0, 32⟩ := by decide
theorem crypto_footer_layout_spec :
    Extracted.envelope.DataTransformCryptoFooter.size = 512 ∧
    Extracted.envelope.DataTransformCryptoFooter.padding = ⟨504, 4, false, 0, 32⟩ := by decide
/-- b"DataTransformEnvelope", checked on read and written on re-serialisation -/
theorem file_magic_spec :
    Extracted.envelope.FILE_HEADER_MAGIC = [68, 97, 116, 97, 84, 114, 97, 110, 115, 102, 111, 114, 109, 69, 110, 118, 101, 108, 111, 112, 101] ∧
    Extracted.envelope.pack_header_bytes.contains Extracted.envelope.FILE_HEADER_MAGIC = true := by decide
/-- b"This is obfuscation, not encryption. If you want encryption, use TPM." -/
theorem pbkdf2_salt_spec :
    Extracted.envelope.PBKDF2_SALT = [84, 104, 105, 115, 32, 105, 115, 32, 111, 98, 102, 117, 115, 99, 97, 116, 105, 111, 110, 44, 32, 110, 111,
      116, 32, 101, 110, 99, 114, 121, 112, 116, 105, 111, 110, 46, 32, 73, 102, 32, 121, 111, 117, 32, 119, 97, 110, 116, 32, 101, 110, 99,
      114, 121, 112, 116, 105, 111, 110, 44, 32, 117, 115, 101, 32, 84, 80, 77, 46] := by decide
/-- ENVELOPE_ATTRIBUTE_TYPE_MAP as probed: (code, kind, width, signed); 1..4 unsigned 8..64, 5..8 signed 8..64, 9/10 IEEE, 11/12/0 → None -/
theorem attr_type_map_spec :
    Extracted.envelope.ATTR_TYPE_MAP = [(0, 0, 0, 0), (1, 1, 1, 0), (2, 1, 2, 0), (3, 1, 4, 0), (4, 1, 8, 0), (5, 1, 1, 1), (6, 1, 2, 1),
      (7, 1, 4, 1), (8, 1, 8, 1), (9, 2, 4, 0), (10, 2, 8, 0), (11, 0, 0, 0), (12, 0, 0, 0)] ∧
    Extracted.envelope.AttributeType_Invalid = 0 ∧ Extracted.envelope.AttributeType_String = 11 ∧
    Extracted.envelope.AttributeType_Bytes = 12 ∧ Extracted.envelope.AttributeType_width = 1 := by decide
/-! literals inside function bodies: the set of constants each anchored function uses contains the format's value, and
    the model constant picked out of that set is that value -/

/-- `Envelope.__init__`: version 2, AEAD footer version 1, two framing blocks; required attributes, IV attribute, the one cipher -/
theorem init_literals_spec :
    Extracted.envelope.init_ints.contains 2 = true ∧ Extracted.envelope.init_ints.contains 1 = true ∧
    ["vmware.keyInfo", "vmware.cipherName", "vmware.keyHash", "vmware.iv", "AES-256-GCM"].all Extracted.envelope.init_strs.contains = true ∧
    Extracted.envelope.init_utf8 = Extracted.envelope.init_strs.map (fun s => s.toUTF8.toList) ∧
    ENV_VERSION = 2 ∧ AEAD_VERSION = 1 ∧ N_FRAME_BLOCKS = 2 ∧
    nmKeyInfo = "vmware.keyInfo".toUTF8.toList ∧ nmCipher = "vmware.cipherName".toUTF8.toList ∧
    nmKeyHash = "vmware.keyHash".toUTF8.toList ∧ nmIv = "vmware.iv".toUTF8.toList ∧ CIPHER_GCM = "AES-256-GCM".toUTF8.toList := by
  decide +kernel
/-- `Envelope.decrypt`: `decrypted[-512:]`, `decrypted[: -4096 - footer.padding]`, cipher "AES-256-GCM" -/
theorem decrypt_literals_spec :
    Extracted.envelope.decrypt_ints.contains 512 = true ∧ Extracted.envelope.decrypt_ints.contains 4096 = true ∧
    Extracted.envelope.decrypt_strs.contains "AES-256-GCM" = true ∧
    DEC_TAIL = 512 ∧ DEC_STRIP = 4096 ∧ DEC_CIPHER_GCM = "AES-256-GCM".toUTF8.toList := by decide +kernel
/-- `KeyStore.__init__` / `from_text`: 100000 PBKDF2 rounds with SHA-256, the keys and separators they use -/
theorem keystore_literals_spec :
    Extracted.envelope.ks_init_ints.contains 100000 = true ∧
    ["mode", "NONE", "ConfigEncData", ":", "=", "keyId", "data1", "data2", "sha256"].all Extracted.envelope.ks_init_strs.contains = true ∧
    ["\n", "#", "=", " \"", "."].all Extracted.envelope.ks_from_text_strs.contains = true ∧
    ROUNDS = 100000 ∧ sMode = "mode".toList ∧ sNONE = "NONE".toList ∧ sConfigEncData = "ConfigEncData".toList ∧
    sKeyId = "keyId".toList ∧ sData1 = "data1".toList ∧ sData2 = "data2".toList ∧ kColon = ':' ∧ kEq2 = '=' ∧
    kNL = '\n' ∧ kHash = '#' ∧ kEq = '=' ∧ kDot = '.' ∧ kQuoteSet = [' ', '"'] := by decide +kernel
/-- two reserved bytes per attribute on read; 512 zero bytes and a 4-NUL terminator on write -/
theorem pack_literals_spec :
    Extracted.envelope.read_attrs_ints.contains 2 = true ∧ Extracted.envelope.pack_header_ints.contains 512 = true ∧
    Extracted.envelope.pack_attrs_ints.contains 4 = true ∧
    RESERVED = 2 ∧ PACK_ZEROS = 512 ∧ TERM = 4 ∧ PACK_MAGIC = Extracted.envelope.FILE_HEADER_MAGIC := by decide +kernel
/-- the value ranges used in `WFAttr` are those of the extracted widths / signedness -/
theorem int_ranges_spec :
    Extracted.envelope.ATTR_TYPE_MAP.all (fun r =>
      if r.2.1 = 1 then
        intRange r.1 == some (if r.2.2.2 = 1 then (-(2 ^ (8 * r.2.2.1 - 1) : Int), (2 ^ (8 * r.2.2.1 - 1) : Int)) else (0, (2 ^ (8 * r.2.2.1) : Int)))
      else intRange r.1 == none) = true := by decide

/-- **attrs_roundtrip**: for every list of well-formed attributes (NUL-free valid-UTF-8 names, values in the range of
    their type — all twelve types, any flags, any order, any number) with distinct names, the reader applied to
    `_pack_attributes`' output (attributes, then the terminator, then anything) returns exactly that list. -/
theorem attrs_roundtrip (as : List Attr) (h : ∀ a ∈ as, WFAttr a) (hnd : (as.map (·.name)).Nodup) (fill : Bytes) :
    readAttrs (packAttrs as ++ fill) = .ok as := by
  simp only [packAttrs, TERM_eq, List.append_assoc]
  exact readAttrs_pack as h hnd (zeros 3 ++ fill)

/-- **header_repack_identity**: a canonical header block `h` (what `_pack_envelope_header` writes for attributes that
    fit the block: file header, attributes, zero fill) is 4096 bytes, its attribute area parses back to the
    attributes, and therefore re-serialising what was parsed gives `h` again byte for byte — the associated data fed
    to AES-GCM is the stored header. -/
theorem header_repack_identity (as : List Attr) (h : ∀ a ∈ as, WFAttr a) (hnd : (as.map (·.name)).Nodup)
    (hfit : 512 + (packBody as).length + 4 ≤ 4096) :
    (packHeader as 2).length = 4096 ∧
    ∃ parsed, readAttrs (((packHeader as 2).take BLOCK).drop HDR) = .ok parsed ∧ packHeader parsed 2 = packHeader as 2 :=
  ⟨packHeader_length as 2 hfit, as, packHeader_reads_back as 2 hfit h hnd, rfl⟩

/-- **padding_strip**: for every payload `p`, every padding length `k` (in particular `k = 0`), any padding bytes,
    any filler and any footer magic, the stripping in `decrypt` returns exactly `p` from
    `p ‖ pad(k) ‖ filler(3584) ‖ crypto footer(512, padding = k)`. -/
theorem padding_strip (p pad filler m : Bytes) (k : Nat) (hk : k < 2 ^ 32) (hpad : pad.length = k)
    (hfill : filler.length = 4096 - 512) (hm : m.length = 504) :
    stripPlain (p ++ pad ++ filler ++ cryptoFooter m k) = .ok p := by
  have hfl := cryptoFooter_length m k hm
  have htail : (p ++ pad ++ filler ++ cryptoFooter m k).drop ((p ++ pad ++ filler ++ cryptoFooter m k).length - 512)
      = cryptoFooter m k :=
    List.drop_left' (by simp only [List.length_append, hfl]; omega)
  unfold stripPlain
  simp only [DEC_TAIL_eq, DEC_STRIP_eq, CF_SIZE_eq, htail, hfl, Nat.lt_irrefl, if_false, cryptoFooter_padding m k hm hk]
  rw [List.append_assoc, List.append_assoc, List.take_left' (by simp only [List.length_append, hfl, hpad, hfill]; omega)]

/-- the `k = 0` instance spelled out: a block-aligned payload is returned whole, not emptied -/
theorem padding_zero_strip (p filler m : Bytes) (hfill : filler.length = 4096 - 512) (hm : m.length = 504) :
    stripPlain (p ++ filler ++ cryptoFooter m 0) = .ok p := by
  have := padding_strip p [] filler m 0 (by decide) rfl hfill hm
  simpa using this

/-- **decrypt_fail_closed**: for every crypto, envelope, key and associated data — if the key-hash gate fails, or the
    envelope has no usable IV, or (with verification on) the tag computed over the data differs from the stored one,
    `decrypt` returns an error: no plaintext leaves the function. -/
theorem decrypt_fail_closed (c : Crypto) (e : Env) (key aad : Bytes)
    (h : Val.bytes (c.sha256 (e.cipherName ++ key)) ≠ e.keyHash ∨ ivOf e = none ∨
         ∀ iv, ivOf e = some iv → (c.gcm key iv (aadOf e aad) e.data).2 ≠ e.digest) :
    ∃ err, decrypt c e true key aad = .error err := by
  apply error_of_not_ok
  intro out hok
  obtain ⟨hk, -, iv, hiv, -, -, -, hv⟩ := decrypt_ok hok
  rcases h with h | h | h
  · exact h hk
  · rw [h] at hiv; cases hiv
  · exact h iv hiv (hv rfl)

/-- the key-hash gate alone, with or without verification -/
theorem decrypt_wrong_key (c : Crypto) (e : Env) (verify : Bool) (key aad : Bytes)
    (h : Val.bytes (c.sha256 (e.cipherName ++ key)) ≠ e.keyHash) :
    ∃ err, decrypt c e verify key aad = .error err := by
  apply error_of_not_ok
  intro out hok
  exact h (decrypt_ok hok).1

/-- **aad_covers**: a successful verified `decrypt` means: the stored tag equals the tag the cipher computes over
    (re-serialised header ‖ caller AAD, ciphertext) under the given key and the envelope's IV, the key hashes to the
    stored key hash, and the result is the stripped decryption of exactly that ciphertext. -/
theorem aad_covers (c : Crypto) (e : Env) (key aad out : Bytes) (h : decrypt c e true key aad = .ok out) :
    ∃ iv, ivOf e = some iv ∧
      e.digest = (c.gcm key iv (packHeader e.attrs e.version ++ aad) e.data).2 ∧
      Val.bytes (c.sha256 (e.cipherName ++ key)) = e.keyHash ∧
      stripPlain (c.gcm key iv (packHeader e.attrs e.version ++ aad) e.data).1 = .ok out := by
  obtain ⟨hk, -, iv, hiv, -, -, hs, hv⟩ := decrypt_ok h
  exact ⟨iv, hiv, (hv rfl).symm, hk, hs⟩

/-- **keystore_deterministic**: the model of `KeyStore.from_text` is a pure function, and when it succeeds the key is
    `pbkdf2(data1 ‖ PBKDF2_SALT, data2, 100000)` of the values the text stores and the id is the stored keyId — nothing
    else enters (no state, no earlier keystore). -/
theorem keystore_deterministic (c : Crypto) (text : Str) (kid key : Bytes) (h : keystore c text = .ok (kid, key)) :
    ∃ store s, parseStore text = .ok store ∧ storedOf store = .ok s ∧
      kid = s.keyId ∧ key = c.pbkdf2 (s.data1 ++ Extracted.envelope.PBKDF2_SALT) s.data2 100000 := by
  unfold keystore at h
  cases hs : parseStore text with
  | error e => rw [hs] at h; cases h
  | ok store =>
    rw [hs] at h
    dsimp only at h
    cases hst : storedOf store with
    | error e => rw [hst] at h; cases h
    | ok s => rw [hst] at h; cases h; exact ⟨store, s, rfl, hst, rfl, rfl⟩

/-- two keystore texts that store the same (keyId, data1, data2) — whatever their spelling — give the same id and key -/
theorem keystore_same_stored_same_key (c : Crypto) (t1 t2 : Str) (st1 st2 : Dict) (s : Stored)
    (h1 : parseStore t1 = .ok st1) (h2 : parseStore t2 = .ok st2) (hs1 : storedOf st1 = .ok s) (hs2 : storedOf st2 = .ok s) :
    keystore c t1 = keystore c t2 := by
  simp only [keystore, h1, h2, hs1, hs2]

/-- a different `data2` (the PBKDF2 salt) is a different PBKDF2 call: the key is `pbkdf2` at exactly these arguments -/
theorem derive_uses_data2 (c : Crypto) (s : Stored) :
    deriveKey c s = c.pbkdf2 (s.data1 ++ SALT) s.data2 ROUNDS := rfl

/-- **cli_writes_exactly**: what `envelope-decrypt` writes is the result of `Envelope(fh).decrypt(KeyStore.key)` with
    verification on and no associated data — nothing else, and nothing when any step fails. -/
theorem cli_writes_exactly (c : Crypto) (file : Bytes) (ks : Str) (out : Bytes) (h : cli c file ks = .ok out) :
    ∃ env kid key, openEnv file = .ok env ∧ keystore c (universalNewlines ks) = .ok (kid, key) ∧
      decrypt c env true key [] = .ok out := by
  unfold cli at h
  split at h
  · cases h
  rename_i env he
  split at h
  · cases h
  rename_i kid key hk
  exact ⟨env, kid, key, he, hk, h⟩

/-- **envelope_roundtrip**: take any well-formed attribute list (all types, any order) that fits the header block and
    holds the cipher name "AES-256-GCM", the key hash of `key`, a key info and a non-empty IV; any payload, padding
    length `k` with any padding bytes, filler, associated data, ciphertext and tag such that the cipher maps
    (key, iv, header ‖ aad, ciphertext) to (payload ‖ pad ‖ filler ‖ crypto footer, tag) — which is what AES-GCM
    decryption of the writer's output does. Then opening `header ‖ ciphertext ‖ AEAD footer` and decrypting with
    `key` and `aad` returns exactly the payload, with verification on. -/
theorem envelope_roundtrip (c : Crypto) (as : List Attr) (ci kh ia : Attr)
    (key iv aad payload pad filler fm am ct tag : Bytes) (k : Nat)
    (hwf : ∀ a ∈ as, WFAttr a) (hnd : (as.map (·.name)).Nodup) (hfit : 512 + (packBody as).length + 4 ≤ 4096)
    (hreq : REQUIRED.any (fun n => (getAttr as n).isNone) = false)
    (hci : getAttr as nmCipher = some ci) (hciv : ci.val = .str CIPHER_GCM)
    (hkh : getAttr as nmKeyHash = some kh) (hkhv : kh.val = .bytes (c.sha256 (CIPHER_GCM ++ key)))
    (hia : getAttr as nmIv = some ia) (hiav : ia.val = .bytes iv) (hiv : iv ≠ [])
    (hkey : aesKeyOk key = true)
    (hk : k < 2 ^ 32) (hpad : pad.length = k) (hfill : filler.length = 4096 - 512) (hfm : fm.length = 504)
    (ham : am.length = 32) (htag : tag.length ≤ 4056)
    (hgcm : c.gcm key iv (packHeader as 2 ++ aad) ct = (payload ++ pad ++ filler ++ cryptoFooter fm k, tag)) :
    ∃ e, openEnv (packHeader as 2 ++ ct ++ aeadFooter am tag) = .ok e ∧ decrypt c e true key aad = .ok payload := by
  refine ⟨_, openEnv_written as ct am tag ci kh hwf hnd hfit hreq hci hciv hkh ham htag, ?_⟩
  have hivo : ∀ e : Env, e.iv = (getAttr as nmIv).map (·.val) → ivOf e = some iv := by
    intro e he
    simp only [ivOf, he, hia, Option.map_some, hiav, if_neg hiv]
  have hsz : ¬ ((ct.length : Int) < 0) := by omega
  unfold decrypt
  rw [hivo _ rfl]
  simp only [hkhv, DEC_CIPHER_GCM_eq, hkey, aadOf, hgcm, padding_strip payload pad filler fm k hk hpad hfill hfm, hsz]
  simp

/-- **model_uses_listed_calls_only**: `decrypt` (and `keystore`) look at the crypto parameter only at the calls
    `decryptCalls` / `keystoreCalls` list: two crypto instances that agree on those calls give the same result. So the
    driver's finite table — the real libraries evaluated at exactly those calls — stands for the real libraries. -/
theorem model_uses_listed_calls_only (c1 c2 : Crypto) (e : Env) (verify : Bool) (key aad : Bytes) (text : Str) :
    ((∀ call ∈ decryptCalls c1 e key aad, agreesOn c1 c2 call) → decrypt c1 e verify key aad = decrypt c2 e verify key aad) ∧
    ((∀ call ∈ keystoreCalls text, agreesOn c1 c2 call) → keystore c1 text = keystore c2 text) := by
  refine ⟨fun h => ?_, fun h => ?_⟩
  · have hsha : c1.sha256 (e.cipherName ++ key) = c2.sha256 (e.cipherName ++ key) :=
      h (.sha256 (e.cipherName ++ key)) (by simp [decryptCalls])
    unfold decrypt
    rw [← hsha]
    by_cases hk : Val.bytes (c1.sha256 (e.cipherName ++ key)) ≠ e.keyHash
    · simp only [if_pos hk]
    by_cases hc : e.cipherName ≠ DEC_CIPHER_GCM
    · simp only [if_neg hk, if_pos hc]
    cases hiv : ivOf e with
    | none => simp only [if_neg hk, if_neg hc]
    | some iv =>
      by_cases hkey : aesKeyOk key = false
      · simp only [if_neg hk, if_neg hc, if_pos hkey]
      by_cases hsz : e.size < 0
      · simp only [if_neg hk, if_neg hc, if_neg hkey, if_pos hsz]
      have hg : c1.gcm key iv (aadOf e aad) e.data = c2.gcm key iv (aadOf e aad) e.data :=
        h (.gcm key iv (aadOf e aad) e.data) (by simp [decryptCalls, hk, hc, hiv, hkey, hsz])
      simp only [if_neg hk, if_neg hc, if_neg hkey, if_neg hsz, hg]
  · unfold keystore
    unfold keystoreCalls at h
    split
    · rfl
    rename_i store hs
    rw [hs] at h
    split
    · rfl
    rename_i s hst
    simp only [hst] at h
    have := h (.pbkdf2 (s.data1 ++ SALT) s.data2 ROUNDS) (by simp)
    simp only [deriveKey]
    rw [show c1.pbkdf2 (s.data1 ++ SALT) s.data2 ROUNDS = c2.pbkdf2 (s.data1 ++ SALT) s.data2 ROUNDS from this]

def exAttrs : List Attr :=
  [ ⟨nmIv, 12, 1, .bytes [1, 2, 3, 4, 5, 6, 7, 8, 9, 10, 11, 12]⟩,
    ⟨[117, 56], 1, 0, .int 255⟩, ⟨[105, 49, 54], 6, 128, .int (-32768)⟩, ⟨[117, 54, 52], 4, 0, .int 18446744073709551615⟩,
    ⟨nmKeyInfo, 11, 0, .str [107, 49]⟩,
    ⟨[102], 9, 0, .f32 0x3FC00000⟩, ⟨[100, 195, 169], 10, 7, .f64 0xC002000000000000⟩,
    ⟨nmCipher, 11, 0, .str CIPHER_GCM⟩,
    ⟨nmKeyHash, 12, 0, .bytes [9, 9]⟩, ⟨[], 7, 0, .int (-1)⟩ ]

/-- a toy instance of the crypto parameter (NOT a cipher): enough to make the hypotheses of `envelope_roundtrip` true -/
def exCrypto : Crypto where
  sha256 _ := [9, 9]
  pbkdf2 pw salt n := pw ++ salt ++ [UInt8.ofNat n]
  gcm _ _ aad ct := (ct.map (· + 1) ++ zeros 3584 ++ cryptoFooter (zeros 504) 0, [UInt8.ofNat aad.length])

theorem exAttrs_wf : ∀ a ∈ exAttrs, WFAttr a := by
  intro a ha
  simp only [exAttrs, List.mem_cons, List.not_mem_nil, or_false] at ha
  rcases ha with rfl | rfl | rfl | rfl | rfl | rfl | rfl | rfl | rfl | rfl
  · exact ⟨by decide, by decide, by decide, by decide⟩
  · exact ⟨by decide, by decide, ⟨0, 2 ^ 8, rfl, by decide, by decide⟩⟩
  · exact ⟨by decide, by decide, ⟨-(2 ^ 15), 2 ^ 15, rfl, by decide, by decide⟩⟩
  · exact ⟨by decide, by decide, ⟨0, 2 ^ 64, rfl, by decide, by decide⟩⟩
  · exact ⟨by decide, by decide, by decide, by decide, by decide⟩
  · exact ⟨by decide, by decide, by decide, by decide, by decide⟩
  · exact ⟨by decide, by decide, by decide, by decide⟩
  · exact ⟨by decide, by decide, by decide, by decide, by decide⟩
  · exact ⟨by decide, by decide, by decide, by decide⟩
  · exact ⟨by decide, by decide, ⟨-(2 ^ 31), 2 ^ 31, rfl, by decide, by decide⟩⟩

/-- the model really parses the packed attributes back (kernel evaluation, ten attributes of eight types) -/
example : readAttrs (packAttrs exAttrs ++ [7, 7, 7]) = .ok exAttrs := by decide +kernel

/-- the end-to-end theorem applies: payload [2, 3, 4] with padding 0 comes back from the written file -/
example : ∃ e, openEnv (packHeader exAttrs 2 ++ [1, 2, 3] ++ aeadFooter (zeros 32) [UInt8.ofNat (4096 + 2)]) = .ok e ∧
    decrypt exCrypto e true (zeros 32) [5, 6] = .ok [2, 3, 4] := by
  have hfit : 512 + (packBody exAttrs).length + 4 ≤ 4096 := by decide +kernel
  exact envelope_roundtrip exCrypto exAttrs ⟨nmCipher, 11, 0, .str CIPHER_GCM⟩ ⟨nmKeyHash, 12, 0, .bytes [9, 9]⟩
    ⟨nmIv, 12, 1, .bytes [1, 2, 3, 4, 5, 6, 7, 8, 9, 10, 11, 12]⟩
    (zeros 32) [1, 2, 3, 4, 5, 6, 7, 8, 9, 10, 11, 12] [5, 6] [2, 3, 4] [] (zeros 3584) (zeros 504) (zeros 32) [1, 2, 3]
    [UInt8.ofNat (4096 + 2)] 0
    exAttrs_wf (by decide +kernel) hfit (by decide +kernel) (by decide +kernel) rfl (by decide +kernel) rfl
    (by decide +kernel) rfl (by decide +kernel) (by decide +kernel)
    (by decide +kernel) rfl (zeros_length _) (zeros_length _) (zeros_length _) (by decide +kernel)
    (by simp only [exCrypto, List.length_append, packHeader_length exAttrs 2 hfit]; rfl)

/-- fail-closed is not vacuous: a stored tag that differs in one byte is refused -/
def exEnv : Env :=
  { version := 2, attrs := [], cipherName := CIPHER_GCM, keyHash := .bytes [9, 9], iv := some (.bytes [1]),
    digest := [1], size := 0, data := [] }

example : ∃ err, decrypt exCrypto exEnv true (zeros 32) [] = .error err :=
  decrypt_fail_closed _ _ _ _ (Or.inr (Or.inr (by
    intro iv _
    show [UInt8.ofNat (aadOf exEnv []).length] ≠ [1]
    rw [aadOf, List.length_append, packHeader_length _ _ (by decide)]
    decide)))

/-- key derivation on a concrete keystore text: the PBKDF2 arguments are the stored values -/
example : keystoreCalls "mode = \"NONE\"\nConfigEncData = \"keyId=AAAAAAAAAAAAAAAAAAAAAA%3d%3d:data1=QUI%3d:data2=Qw%3D%3D\"".toList
    = [.pbkdf2 ([65, 66] ++ SALT) [67] 100000] := by
  -- the literal is `String.ofList` of its characters; rewritten here, because evaluating `toList` of it decodes it from its bytes
  rw [String.toList_ofList]
  decide +kernel

/-- finding D27: a float32 signalling NaN (0x7FA00001) is
    re-serialised with the quiet bit set (0x7FE00001), so it is outside `WFAttr` and the re-serialised header differs
    from the stored one -/
example : f32Repack 0x7FA00001 = 0x7FE00001 ∧ packVal 9 (.f32 0x7FA00001) ≠ leBytes 4 0x7FA00001 := by decide

end Hv.C16
