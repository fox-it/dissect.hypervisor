/-
  C18 — VM configuration files: the reported disk list is exactly the VM's hard disks.
  Models: Hv/Configs.lean (VMX dictionary, VMX.disks, OVF, VBox, PVS) over Hv/Prim/XPath.lean (element trees and
  the ElementPath selectors).  Lemmas: HvProofs/Configs.lean (VMX), ConfigsXml.lean (VBox, PVS), ConfigsOvf.lean (OVF).
-/
import HvProofs.Configs
import HvProofs.ConfigsXml
import HvProofs.ConfigsOvf
namespace Hv.C18
open Hv Hv.XPath Hv.Configs Hv.ConfigsSpec

/-! ### extracted literals = the specification's values -/

theorem parse_lits_spec : Extracted.configs.PARSE_LITS = ["\n", "#", "=", " \""] := rfl
theorem dev_classes_spec : Extracted.configs.DEV_CLASSES = ["scsi", "sata", "ide", "nvme"] := rfl
theorem disks_lits_spec : Extracted.configs.DISKS_LITS = [".", "filename", "devicetype", "disk"] := rfl
/-- `str.lower()` of the interpreter below U+0080: `A`–`Z` ↦ `a`–`z`, nothing else — which is what the model's
    `lowerChar` spells out for these code points -/
theorem lower_table_ascii_spec : ∀ c < 128, lookupNat c cfg.lowerMap = (if 65 ≤ c ∧ c ≤ 90 then some [c + 32] else none) := by
  intro c hc
  show lookupNat c (Extracted.configs.LOWER_MAP_ASCII ++ Extracted.configs.LOWER_MAP_HIGH) = _
  rw [lookupNat_append_high c 128 _ _ hc (by decide +kernel),
    show Extracted.configs.LOWER_MAP_ASCII = (List.range' 65 26).map (fun k => (k, [k + 32])) from rfl, lookupNat_range']
  have h90 : c < 65 + 26 ↔ c ≤ 90 := by omega
  simp only [h90]
/-- `str.strip()` white space below U+0080 -/
theorem spaces_ascii_spec : (List.range 128).filter (fun c => isSpace cfg (Char.ofNat c)) = [9, 10, 11, 12, 13, 28, 29, 30, 31, 32] := by
  decide +kernel
theorem ovf_ns_spec : Extracted.configs.OVF_NS =
    [("ovf", "http://schemas.dmtf.org/ovf/envelope/1"),
     ("rasd", "http://schemas.dmtf.org/wbem/wscim/1/cim-schema/2/CIM_ResourceAllocationSettingData")] := rfl
theorem ovf_paths_spec : Extracted.configs.OVF_PATH_ARGS =
    ["findall:ovf:References/ovf:File", "findall:ovf:DiskSection/ovf:Disk",
     "findall:ovf:VirtualSystem/ovf:VirtualHardwareSection/ovf:Item/[rasd:ResourceType=\"17\"]",
     "find:{http://schemas.dmtf.org/wbem/wscim/1/cim-schema/2/CIM_ResourceAllocationSettingData}HostResource"] := rfl
theorem ovf_steps_spec :
    ovfCfg.fileSteps = [.child "{http://schemas.dmtf.org/ovf/envelope/1}References".toList,
                        .child "{http://schemas.dmtf.org/ovf/envelope/1}File".toList]
    ∧ ovfCfg.diskSteps = [.child "{http://schemas.dmtf.org/ovf/envelope/1}DiskSection".toList,
                          .child "{http://schemas.dmtf.org/ovf/envelope/1}Disk".toList]
    ∧ ovfCfg.driveSteps = [.child "{http://schemas.dmtf.org/ovf/envelope/1}VirtualSystem".toList,
                           .child "{http://schemas.dmtf.org/ovf/envelope/1}VirtualHardwareSection".toList,
                           .child "{http://schemas.dmtf.org/ovf/envelope/1}Item".toList,
                           .childText "{http://schemas.dmtf.org/wbem/wscim/1/cim-schema/2/CIM_ResourceAllocationSettingData}ResourceType".toList "17".toList]
    ∧ ovfCfg.hostResSteps = [.child "{http://schemas.dmtf.org/wbem/wscim/1/cim-schema/2/CIM_ResourceAllocationSettingData}HostResource".toList] :=
  ⟨rfl, rfl, rfl, rfl⟩
theorem ovf_lits_spec :
    Extracted.configs.OVF_INIT_ATTRS = ["{http://schemas.dmtf.org/ovf/envelope/1}id", "{http://schemas.dmtf.org/ovf/envelope/1}href",
      "{http://schemas.dmtf.org/ovf/envelope/1}diskId", "{http://schemas.dmtf.org/ovf/envelope/1}fileRef"]
    ∧ Extracted.configs.OVF_DISKS_LITS = ["ovf:", "/disk/", "/", "/file/", "/"] := ⟨rfl, rfl⟩
theorem vbox_path_spec : Extracted.configs.VBOX_PATH_ARGS =
    ["findall:.//{http://www.virtualbox.org/}HardDisk[@location][@type='Normal']"] := rfl
theorem vbox_steps_spec : vboxCfg.steps =
    [.self, .desc "{http://www.virtualbox.org/}HardDisk".toList, .hasAttr "location".toList, .attrEq "type".toList "Normal".toList] := rfl
theorem vbox_lits_spec : Extracted.configs.VBOX_LITS = ["format", "vdi", "location"] := rfl
theorem pvs_path_spec : Extracted.configs.PVS_PATH_ARGS = ["iterfind:.//Hdd", "find:SystemName"] := rfl
theorem pvs_steps_spec : pvsCfg.steps = [.self, .desc "Hdd".toList] ∧ pvsCfg.nameSteps = [.child "SystemName".toList] := ⟨rfl, rfl⟩

/-- **dict_lookup_is_last_assignment**: for every list of lines and every key, the parsed dictionary maps the key to
    the value of the *last* line that assigns it (`lastAssign` walks the file from the end; a line assigns
    `lower(strip(text before the first "="))`), and to nothing if no line does. -/
theorem dict_lookup_is_last_assignment (C : Cfg) (ls : List Str) (key : Str) :
    aget key (parseLines C ls) = lastAssign C ls key := aget_parseLines C ls key

/-- **dict_last_assignment_wins**: whatever precedes it — any number of earlier assignments of the same key in any
    casing — an assignment line at the end of the file determines the value. -/
theorem dict_last_assignment_wins (C : Cfg) (ls : List Str) (l k v : Str) (h : classifyLine C l = some (k, v)) :
    aget k (parseLines C (ls ++ [l])) = some v := by
  rw [dict_lookup_is_last_assignment, lastAssign_append_single C ls l k v h]

/-- **dict_rendered_last_assignment_wins**: the same for a concretely rendered line
    `<pad>KeY<pad>=<pad>"value"<pad>`: the value is found under the lower-cased key. -/
theorem dict_rendered_last_assignment_wins (C : Cfg) (ls : List Str) (q : Char) (p1 p2 p3 p4 k v : Str)
    (hq1 : isSpace C q = false) (hq2 : C.valueStrip.contains q = true) (hsep : isSpace C C.sep = false)
    (h1 : ∀ x ∈ p1, isSpace C x = true) (h2 : ∀ x ∈ p2, isSpace C x = true)
    (h3 : ∀ x ∈ p3, C.valueStrip.contains x = true) (h4 : ∀ x ∈ p4, isSpace C x = true)
    (hk : KeyOK C k) (hv : ValueOK C v) :
    aget (lower C k) (parseLines C (ls ++ [renderLine C q p1 p2 p3 p4 k v])) = some v :=
  dict_last_assignment_wins C ls _ _ _ (classifyLine_render C q p1 p2 p3 p4 k v hq1 hq2 hsep h1 h2 h3 h4 hk hv)

/-- **dict_keys_case_insensitive**: two spellings of a key that agree after lower-casing are interchangeable at any
    position of any file, with any padding: the parsed dictionaries are equal. -/
theorem dict_keys_case_insensitive (C : Cfg) (a b : List Str) (q : Char) (p1 p2 p3 p4 p1' p2' p3' p4' k k' v : Str)
    (hq1 : isSpace C q = false) (hq2 : C.valueStrip.contains q = true) (hsep : isSpace C C.sep = false)
    (h1 : ∀ x ∈ p1, isSpace C x = true) (h2 : ∀ x ∈ p2, isSpace C x = true)
    (h3 : ∀ x ∈ p3, C.valueStrip.contains x = true) (h4 : ∀ x ∈ p4, isSpace C x = true)
    (h1' : ∀ x ∈ p1', isSpace C x = true) (h2' : ∀ x ∈ p2', isSpace C x = true)
    (h3' : ∀ x ∈ p3', C.valueStrip.contains x = true) (h4' : ∀ x ∈ p4', isSpace C x = true)
    (hk : KeyOK C k) (hk' : KeyOK C k') (hv : ValueOK C v) (hcase : lower C k = lower C k') :
    parseLines C (a ++ renderLine C q p1 p2 p3 p4 k v :: b) = parseLines C (a ++ renderLine C q p1' p2' p3' p4' k' v :: b) := by
  -- the loop looks at a line only through `classifyLine`
  simp only [parseLines, List.foldl_append, List.foldl_cons, stepLine,
    classifyLine_render C q p1 p2 p3 p4 k v hq1 hq2 hsep h1 h2 h3 h4 hk hv,
    classifyLine_render C q p1' p2' p3' p4' k' v hq1 hq2 hsep h1' h2' h3' h4' hk' hv, hcase]

/-- **dict_ignores_comments_and_blanks**: a line that is empty after `strip()` or starts with `#` after `strip()`
    can be inserted or removed anywhere without changing the parsed dictionary. -/
theorem dict_ignores_comments_and_blanks (C : Cfg) (a b : List Str) (l : Str)
    (h : strip C l = [] ∨ C.comment.isPrefixOf (strip C l) = true) :
    parseLines C (a ++ l :: b) = parseLines C (a ++ b) := by
  have hc : classifyLine C l = none := by
    unfold classifyLine
    simp only [h, if_true]
  simp only [parseLines, List.foldl_append, List.foldl_cons, stepLine, hc]

/-- the hypotheses of the rendered-line theorems hold for the extracted configuration and ordinary keys -/
example : isSpace cfg '"' = false ∧ cfg.valueStrip.contains '"' = true ∧ isSpace cfg cfg.sep = false
    ∧ cfg.valueStrip.contains ' ' = true ∧ isSpace cfg '\t' = true := by decide +kernel

/-- non-vacuity: a key assigned three times with spellings A / b / A -/
example : aget "scsi0:0.filename".toList (parseDictionary cfg
    "#!/usr/bin/vmware\nscsi0:0.fileName = \"first.vmdk\"\n  # c\n\nscsi0:0.filename = \"second.vmdk\"\r\nscsi0:0.fileName=\"final.vmdk\" ".toList)
    = some "final.vmdk".toList := by
  -- the literals are spelled out by `String.toList_ofList` first: evaluation would decode each of them from its bytes by index
  rw [String.toList_ofList, String.toList_ofList, String.toList_ofList]
  decide +kernel

/-- **device_key_parse**: for every device class of the code, every digit string as bus (non-empty) and unit and
    every property name, the loop body of `VMX.disks` recovers `(class, "bus:unit", property)` from the key
    `<class><bus>:<unit>.<property>` — the character-set `lstrip(dev_class)` stops at the first digit. -/
theorem device_key_parse (d : Device) (hd : d.WF cfg) (p : Str) :
    parseKey cfg (d.key cfg p) = some (some (d.cls, d.id, p)) := parseKey_device d hd p

/-- which property dictionaries count as a hard disk: a non-empty `filename`, and `devicetype` absent, empty or
    containing `disk` after lower-casing — so no `cdrom-image` / `atapi-cdrom` / `cdrom-raw` device is reported -/
theorem disk_filter_spec (C : Cfg) (p : Props) (f : Str) :
    diskFile C p = some f ↔ aget C.kFile p = some f ∧ f ≠ [] ∧
      (aget C.kType p = none ∨ ∃ t, aget C.kType p = some t ∧ (t = [] ∨ isInfix C.disk (lower C t) = true)) := by
  unfold diskFile
  -- both sides are the case table of the two look-ups: `filename` absent / empty / present, then `devicetype` absent / empty /
  -- containing `disk`
  grind

/-- **vmx_disks_exact**: for every abstract VM — any number of devices of the code's classes with any digit strings
    as bus and unit, each with any properties (file name, device type, present, …), pairwise different
    `class/bus:unit`, plus any unrelated settings (not class-prefixed, or class-prefixed settings of other groups
    that are not file names, e.g. controller settings) — and for **every dictionary holding exactly these settings
    in any order**, `VMX.disks()` does not raise and returns the sorted list of the file names of exactly those
    devices that pass the disk filter (`disk_filter_spec`), with multiplicity. -/
theorem vmx_disks_exact (vm : VM) (hwf : vm.WF cfg) (attr : Dict) (hm : ∀ e, e ∈ attr ↔ e ∈ vm.entries cfg) :
    disks cfg attr = some ((vm.devices.filterMap (fun d => diskFile cfg d.props)).mergeSort strLe) := by
  obtain ⟨d1, hg, w1, hdev, hoth⟩ := group_vm vm hwf attr hm
  have ⟨_, hids, _⟩ := hwf
  rw [disks, hg]
  refine congrArg some (mergeSort_perm_eq _ _ ?_)
  rw [collect_eq cfg d1 w1]
  -- the groups of the devices carry the result; regrouping them first is a permutation
  refine (filterMap_perm_of_subset _ (nodup_ids d1 w1) hids ?_ fun ci h1 h2 => ?_).trans ?_
  · intro ci hci
    obtain ⟨d, hd, rfl⟩ := List.mem_map.1 hci
    exact (hdev d hd).1
  · simp only [diskFile, show aget cfg.kFile _ = none from hoth ci h1 h2]
  · -- over the devices' own groups the two lists are equal: the filter sees each device's properties
    refine List.Perm.of_eq ?_
    rw [VM.devIds, List.filterMap_map]
    exact filterMap_congr_mem fun d hd => diskFile_congr cfg ((hdev d hd).2 _) ((hdev d hd).2 _)

/-- **vmx_text_disks_exact**: the same from the text: for every list of lines whose *last assignments*
    (case-insensitive keys, comments and blank lines ignored, see the dictionary theorems) are exactly the VM's
    settings, `VMX.parse(text).disks()` is the sorted list of the hard disks' files. -/
theorem vmx_text_disks_exact (vm : VM) (hwf : vm.WF cfg) (ls : List Str)
    (hm : ∀ k v, lastAssign cfg ls k = some v ↔ (k, v) ∈ vm.entries cfg) :
    disks cfg (parseLines cfg ls) = some ((vm.devices.filterMap (fun d => diskFile cfg d.props)).mergeSort strLe) :=
  vmx_disks_exact vm hwf _ (fun ⟨k, v⟩ => (mem_parseLines_iff cfg ls k v).trans (hm k v))

/-- **vmx_reported_iff_hard_disk** (soundness and completeness as a set): a name is reported iff it is the file of a
    device passing the disk filter. -/
theorem vmx_reported_iff_hard_disk (vm : VM) (hwf : vm.WF cfg) (attr : Dict) (hm : ∀ e, e ∈ attr ↔ e ∈ vm.entries cfg)
    (f : Str) : (∃ r, disks cfg attr = some r ∧ f ∈ r) ↔ ∃ d ∈ vm.devices, diskFile cfg d.props = some f := by
  simp only [vmx_disks_exact vm hwf attr hm, Option.some.injEq, exists_eq_left', List.mem_mergeSort, List.mem_filterMap]

def exampleVM : VM where
  devices := [⟨"scsi".toList, "0".toList, "10".toList, [("present".toList, "TRUE".toList), ("filename".toList, "root.vmdk".toList), ("devicetype".toList, "scsi-hardDisk".toList)]⟩,
              ⟨"ide".toList, "1".toList, "0".toList, [("filename".toList, "install.iso".toList), ("devicetype".toList, "cdrom-image".toList)]⟩,
              ⟨"sata".toList, "0".toList, "10".toList, [("filename".toList, "data.vmdk".toList)]⟩,
              ⟨"nvme".toList, "0".toList, "0".toList, [("filename".toList, "".toList)]⟩]
  others := [("scsi0.present".toList, "TRUE".toList), ("scsi0.virtualdev".toList, "lsilogic".toList),
             ("sched.scsi0:0.shares".toList, "normal".toList), ("floppy0.filename".toList, "boot.flp".toList),
             ("displayname".toList, "vm".toList), ("ethernet1.filename".toList, "vmnet2".toList)]

/-- the hypotheses of `vmx_disks_exact` are satisfiable (disks, a CD-ROM, an empty file name, controllers, floppy, unrelated keys) -/
example : exampleVM.WF cfg := VM.WF_of_check cfg exampleVM (by decide +kernel) (by decide +kernel) (by decide +kernel)

/-- on it the model reports the two hard disks, sorted (settings taken in reverse order) -/
example : disks cfg (exampleVM.entries cfg).reverse = some ["data.vmdk".toList, "root.vmdk".toList] := by
  refine disks_of_unsorted cfg _ ["root.vmdk".toList, "data.vmdk".toList] _ ?_ (by decide +kernel) (List.Perm.swap ..)
  unfold exampleVM
  repeat rw [String.toList_ofList]
  decide +kernel

/-! ### deviations of the code from a broader reading of the property (model = code; observation O4 in DESIGN.md) -/

/-- a legacy raw-device-mapping disk (`deviceType = "scsi-passthru-rdm"`, a hard disk for VMware) does not pass the
    filter: the filter asks for the substring `disk` -/
example : diskFile cfg [("filename".toList, "rdm.vmdk".toList), ("devicetype".toList, "scsi-passthru-rdm".toList)] = none := by
  repeat rw [String.toList_ofList]
  decide +kernel

/-- a TAB between `=` and the opening quote stays in the value (`value.strip(' "')` strips blanks and quotes only) -/
example : aget "scsi0:0.filename".toList (parseDictionary cfg "scsi0:0.fileName =\t\"a.vmdk\"".toList) = some "\t\"a.vmdk".toList := by
  repeat rw [String.toList_ofList]
  decide +kernel

/-- a key that starts with a device class but has no `.` makes `VMX.disks()` raise -/
example : disks cfg [("idevice".toList, "x".toList)] = none := by decide +kernel

/-- **vbox_disks_exact**: for every element tree, `VBox.disks()` is the document-order list of the `location`s of
    *all proper descendants of the root, at any depth* (`vboxSpecL` recurses through every child list — hard disks
    nested in hard disks included), that are `{http://www.virtualbox.org/}HardDisk` elements with `type="Normal"`
    and a non-empty `format` that lower-cases to `vdi` (`vboxSel`); it never raises. -/
theorem vbox_disks_exact (root : Xml) :
    vboxDisks cfg vboxCfg root = some (vboxSpecL cfg vboxCfg "{http://www.virtualbox.org/}HardDisk".toList "type".toList
      "Normal".toList root.children) :=
  vboxDisks_eq cfg vboxCfg vbox_steps_spec root

/-- **vbox_disks_mem_iff**: a location is reported iff some proper descendant (`Desc`: child, or descendant of a
    child) is a Normal VDI hard disk with that location. -/
theorem vbox_disks_mem_iff (root : Xml) (l : Str) :
    (∃ r, vboxDisks cfg vboxCfg root = some r ∧ l ∈ r) ↔
      ∃ e, Desc e root ∧ vboxSel cfg vboxCfg "{http://www.virtualbox.org/}HardDisk".toList "type".toList "Normal".toList e = some l :=
  mem_vboxDisks cfg vboxCfg vbox_steps_spec root l

/-- what `vboxSel` selects, spelled out -/
theorem vbox_sel_spec (e : Xml) (l : Str) :
    vboxSel cfg vboxCfg "{http://www.virtualbox.org/}HardDisk".toList "type".toList "Normal".toList e = some l ↔
      e.tag = "{http://www.virtualbox.org/}HardDisk".toList ∧ e.get "type".toList = some "Normal".toList ∧
      (∃ f, e.get "format".toList = some f ∧ f ≠ [] ∧ lower cfg f = "vdi".toList) ∧ e.get "location".toList = some l :=
  vboxSel_eq_some ..

private def hd (attrs : List (String × String)) (kids : List Xml) : Xml :=
  .node "{http://www.virtualbox.org/}HardDisk".toList (attrs.map (fun kv => (kv.1.toList, kv.2.toList))) kids none (some "\n".toList)

/-- nested registry: Normal VDI disks inside disks of other formats / types are reported, in document order -/
example : vboxDisks cfg vboxCfg (.node "{http://www.virtualbox.org/}VirtualBox".toList [] [
    .node "{http://www.virtualbox.org/}HardDisks".toList [] [
      hd [("location", "base.vdi"), ("format", "VDI"), ("type", "Normal")] [
        hd [("location", "snap.vdi"), ("format", "VDI")] [],
        hd [("location", "child.vdi"), ("format", "vdi"), ("type", "Normal")] [
          hd [("location", "grandchild.vdi"), ("format", "Vdi"), ("type", "Normal")] []]],
      hd [("location", "outer.vmdk"), ("format", "VMDK"), ("type", "Normal")] [
        hd [("location", "inner.vdi"), ("format", "VDI"), ("type", "Normal")] [],
        hd [("location", "ro.vdi"), ("format", "VDI"), ("type", "Immutable")] []]] none none,
    .node "{http://www.virtualbox.org/}DVDImages".toList [] [
      .node "{http://www.virtualbox.org/}Image".toList [("location".toList, "x.iso".toList)] [] none none] none none] none none)
    = some ["base.vdi".toList, "child.vdi".toList, "grandchild.vdi".toList, "inner.vdi".toList] := by
  rw [vbox_disks_exact]
  unfold hd
  repeat rw [String.toList_ofList]
  decide +kernel

/-- **ovf_disks_exact**: for every element tree that is a well-formed OVF envelope (`ovfWfb`, a decidable predicate:
    every `References/File` has `ovf:id` and `ovf:href` and the file ids are pairwise distinct; every
    `DiskSection/Disk` has `ovf:diskId` and an `ovf:fileRef` naming a `File`, and the disk ids are pairwise distinct —
    *a disk id may coincide with a file id*; every `VirtualSystem/VirtualHardwareSection/Item` having a
    `rasd:ResourceType` child with text `17` has a first `rasd:HostResource` child with text `[ovf:]/disk/<id>` naming a
    `Disk` or `[ovf:]/file/<id>` naming a `File`, `<id>` without `/`), `list(OVF(fh).disks())` does not raise and is, in
    document order of the hard-disk items, the href of the file backing each of them (`ovfSpec`: item → *the* `Disk`
    with that `diskId` → *the* `File` with that disk's `fileRef` → href, resp. item → *the* `File` with that id → href;
    the two id spaces are searched separately, so a `Disk` whose id equals another `File`'s id shadows nothing).
    Items of any other resource type (CD-ROM 15/16, floppy 14, controllers 5/6/20, …) contribute nothing. -/
theorem ovf_disks_exact (root : Xml) (hwf : ovfWfb root = true) :
    ovfDisks ovfCfg root = some ((ovfSpec root).map some) := by
  have w := ovfWF_of_wfb root hwf
  obtain ⟨f1, f2, f3⟩ := ovf_findall root
  unfold ovfDisks
  rw [f1, f2, f3]
  dsimp only
  rw [diskMap_eq]
  · exact mapMOpt_eq_filterMap _ _ _ (resolve_item root w)
  · intro d hd
    obtain ⟨_, ref, href, hrid⟩ := w.diskAttrs d hd
    obtain ⟨hh, h1, _⟩ := file_lookup root w ref hrid
    rw [href, h1]; rfl

/-- **ovf_one_entry_per_disk_item**: on a well-formed envelope the result has exactly one entry per hard-disk item. -/
theorem ovf_one_entry_per_disk_item (root : Xml) (hwf : ovfWfb root = true) :
    ∃ r, ovfDisks ovfCfg root = some r ∧ r.length = (driveItems root).length := by
  refine ⟨_, ovf_disks_exact root hwf, ?_⟩
  rw [List.length_map]
  exact length_filterMap_of_some _ _ fun it hit => (resolve_item root (ovfWF_of_wfb root hwf) it hit).imp fun _ h => h.2

/-- **ovf_reported_iff_disk_item**: a name is reported iff it is the backing file of some hard-disk item; an `Item`
    none of whose `rasd:ResourceType` children has the text `17` is never looked at. -/
theorem ovf_reported_iff_disk_item (root : Xml) (hwf : ovfWfb root = true) (href : Str) :
    (∃ r, ovfDisks ovfCfg root = some r ∧ some href ∈ r) ↔
      ∃ it ∈ itemEls root, isDiskItem it = true ∧ itemHref (fileEls root) (diskEls root) it = some href := by
  rw [ovf_disks_exact root hwf]
  simp only [Option.some.injEq, exists_eq_left', ovfSpec, driveItems, List.mem_map, List.mem_filterMap, List.mem_filter]
  -- both sides now say: some item of `itemEls root` passes `isDiskItem` and has `itemHref … = some href`; only `∃`/`∧` are regrouped
  grind

private def oel (tag : Str) (attrs : List (Str × String)) (kids : List Xml) : Xml :=
  .node tag (attrs.map (fun kv => (kv.1, kv.2.toList))) kids none none
private def otext (tag : Str) (text : String) : Xml := .node tag [] [] (some text.toList) none
private def oitem (rt host : String) : Xml := oel tItem [] [otext tResourceType rt, otext tHostResource host]

/-- two files, two disks with **crossed ids** (disk `f1` is backed by file `f2`, disk `f2` by file `f1`), hard-disk items in
    both `HostResource` forms, a CD-ROM on a third file, a controller without host resource, a decoy `17` in another field -/
private def crossed : Xml :=
  oel "Envelope".toList [] [
    oel tReferences [] [oel tFile [(idAttr, "f1"), (hrefAttr, "a.vmdk")] [], oel tFile [(idAttr, "f2"), (hrefAttr, "b.vmdk")] [],
                        oel tFile [(hrefAttr, "cd.iso"), (idAttr, "f3")] []],
    oel tDiskSection [] [oel tDisk [(diskIdAttr, "f2"), (fileRefAttr, "f1")] [], oel tDisk [(diskIdAttr, "f1"), (fileRefAttr, "f2")] []],
    oel tVirtualSystem [] [oel tVirtualHardwareSection [] [
      oel tItem [] [otext tResourceType "6", otext "ElementName".toList "17"],
      oitem "17" "ovf:/disk/f1", oitem "15" "ovf:/file/f3", oitem "17" "/file/f1", oitem "17" "/disk/f2", oitem "17" "ovf:/file/f2"]]]

/-- non-vacuity of `ovf_disks_exact`, with a `diskId` equal to the id of a `File` that backs a *different* disk:
    the envelope is well-formed and its specification value is the four backing files in document order -/
theorem ovf_crossed_ids_wellformed :
    ovfWfb crossed = true ∧ ovfSpec crossed = ["b.vmdk".toList, "a.vmdk".toList, "a.vmdk".toList, "b.vmdk".toList] := by
  -- evaluation, after the thirteen long names of `Hv.ConfigsSpec` have been spelled out by `String.toList_ofList`
  -- (evaluation would decode each literal from its bytes by index)
  have h1 : tReferences = _ := String.toList_ofList
  have h2 : tFile = _ := String.toList_ofList
  have h3 : tDiskSection = _ := String.toList_ofList
  have h4 : tDisk = _ := String.toList_ofList
  have h5 : tVirtualSystem = _ := String.toList_ofList
  have h6 : tVirtualHardwareSection = _ := String.toList_ofList
  have h7 : tItem = _ := String.toList_ofList
  have h8 : tResourceType = _ := String.toList_ofList
  have h9 : tHostResource = _ := String.toList_ofList
  have h10 : idAttr = _ := String.toList_ofList
  have h11 : hrefAttr = _ := String.toList_ofList
  have h12 : diskIdAttr = _ := String.toList_ofList
  have h13 : fileRefAttr = _ := String.toList_ofList
  delta ovfWfb ovfSpec driveItems itemEls fileEls diskEls isDiskItem crossed oitem
  simp only [h1, h2, h3, h4, h5, h6, h7, h8, h9, h10, h11, h12, h13]
  -- the functions with a `match` come second: to accept their unfolding the kernel evaluates what they match on,
  -- and by now that mentions no literal
  delta itemHref hostText fileHref diskFileRef
  simp only [h9, h10, h11, h12, h13]
  clear h1 h2 h3 h4 h5 h6 h7 h8 h9 h10 h11 h12 h13
  decide +kernel

/-- hence (by the theorem, not by evaluation) the model of `OVF.disks` returns them -/
example : ovfDisks ovfCfg crossed = some [some "b.vmdk".toList, some "a.vmdk".toList, some "a.vmdk".toList, some "b.vmdk".toList] := by
  rw [ovf_disks_exact crossed ovf_crossed_ids_wellformed.1, ovf_crossed_ids_wellformed.2]; rfl

/-- **pvs_disks_exact**: for every element tree, `PVS.disks()` is the document-order list, over all proper
    descendants at any depth with tag `Hdd` that have a `SystemName` child, of the text of the *first* such child
    (`None` for an empty element); `CdRom` / `Fdd` elements and `SystemName`s elsewhere are not reported. -/
theorem pvs_disks_exact (root : Xml) :
    pvsDisks pvsCfg root = some (pvsSpecL "Hdd".toList "SystemName".toList root.children) :=
  pvsDisks_eq pvsCfg _ _ pvs_steps_spec.1 pvs_steps_spec.2 root

theorem pvs_disks_mem_iff (root : Xml) (l : Option Str) :
    (∃ r, pvsDisks pvsCfg root = some r ∧ l ∈ r) ↔
      ∃ e, Desc e root ∧ e.tag = "Hdd".toList ∧ ∃ s, find "SystemName".toList e = some s ∧ s.text = l :=
  mem_pvsDisks pvsCfg _ _ pvs_steps_spec.1 pvs_steps_spec.2 root l

private def leaf (tag text : String) : Xml := .node tag.toList [] [] (some text.toList) none

example : pvsDisks pvsCfg (.node "ParallelsVirtualMachine".toList [] [
    .node "Hardware".toList [] [
      .node "Hdd".toList [] [leaf "Index" "0", leaf "SystemName" "harddisk.hdd",
        .node "Partition".toList [] [leaf "SystemName" "/dev/sda1"] none none] none none,
      .node "CdRom".toList [] [leaf "SystemName" "install.iso"] none none,
      .node "Hdd".toList [] [leaf "Index" "1"] none none,
      .node "Hdd".toList [] [leaf "SystemName" "second.hdd"] none none] none none] none none)
    = some [some "harddisk.hdd".toList, some "second.hdd".toList] := by decide +kernel

end Hv.C18
