/-
  C06 — Parallels HDS/HDD: every byte range reads as the guest-visible content.
-/
import HvProofs.Hds
namespace Hv.C06
open Hv Hv.Hds

/-! extracted values = Parallels format documentation (QEMU docs/interop/parallels.txt) -/
theorem SECTOR_SIZE_spec : Extracted.hdd.SECTOR_SIZE = 512 := by decide
theorem signatures_spec :
    Extracted.hdd.SIGNATURE_STRUCTURED_DISK_V1 = "WithoutFreeSpace".toList.map (fun c => UInt8.ofNat c.toNat) ∧
    Extracted.hdd.SIGNATURE_STRUCTURED_DISK_V2 = "WithouFreSpacExt".toList.map (fun c => UInt8.ofNat c.toNat) := by
  decide +kernel
theorem header_layout_spec :
    Extracted.hdd.pvd_header.size = 64 ∧
    Extracted.hdd.pvd_header.m_Sig = (0, 16) ∧
    Extracted.hdd.pvd_header.m_Sectors = ⟨28, 4, false, 0, 32⟩ ∧
    Extracted.hdd.pvd_header.m_Size = ⟨32, 4, false, 0, 32⟩ ∧
    Extracted.hdd.pvd_header.m_SizeInSectors_v1 = ⟨36, 4, false, 0, 32⟩ ∧
    Extracted.hdd.pvd_header.m_SizeInSectors_v2 = ⟨36, 8, false, 0, 64⟩ ∧
    Extracted.hdd.uint32_size = 4 := by decide

/-- **hds_bat_units**: the file offset computed for an allocated cluster is
    `entry · multiplier · 512 + offset-in-cluster` — entries count sectors when the
    multiplier is 1 (v1) and clusters when it is `m_Sectors` (v2). -/
theorem hds_bat_units (v : Hds) (off e : Nat) (h : v.bat[off / v.clusterSize]? = some e) (he : e ≠ 0) :
    v.readOffset off = .ok (e * v.mult * 512 + off % v.clusterSize) := by
  unfold Hds.readOffset
  rw [h]; simp [he]; rfl

/-- **hds_read_correct**: for every well-formed image (any cluster size, any BAT, any
    placement — including an allocated cluster whose file offset equals the length of the
    sparse run before it) `_read` returns the guest bytes of the request; `Lr` is at least the
    request length clamped to the disk and at most the request length (the loop may continue to the end of the last
    cluster). -/
theorem hds_read_correct (v : Hds) (pc : Nat → UInt8) (hwf : WF v) (hp : ParentOK v pc) (off len : Nat) :
    ∃ Lr, min len (v.size - off) ≤ Lr ∧ Lr ≤ len ∧ v.read off len = .ok (slice (v.guest pc) off Lr) :=
  read_spec v pc hwf hp off len

theorem hds_reads_as (v : Hds) (pc : Nat → UInt8) (hwf : WF v) (hp : ParentOK v pc) :
    ReadsAs v.read ⟨v.size, v.guest pc⟩ := by
  intro off len h
  obtain ⟨Lr, h1, h2, h3⟩ := read_spec v pc hwf hp off len
  rw [clamp_eq h] at h1
  rw [h3, Nat.le_antisymm h2 h1]

/-- **hds_backendOK** / **hds_stream_correct**: contract of the buffered layer and the
    resulting behaviour of the opened stream for any history and any buffer size. -/
theorem hds_backendOK (v : Hds) (pc : Nat → UInt8) (hwf : WF v) (hp : ParentOK v pc) (align : Nat) :
    BackendOK v.size align v.read (v.guest pc) :=
  backendOK_of_covers (Nat.mod_one align) fun off len _ => by
    obtain ⟨Lr, h1, h2, h3⟩ := read_spec v pc hwf hp off len
    exact ⟨Lr, h3, h1, fun _ hle => by rw [clamp_eq hle] at h1; omega⟩

theorem hds_stream_correct (v : Hds) (pc : Nat → UInt8) (hwf : WF v) (hp : ParentOK v pc)
    (align : Nat) (ha : 0 < align) (ops : List Op) :
    AS.run v.read (AS.init v.size align) ops = Spec.run (v.guest pc) ⟨v.size, 0⟩ ops :=
  AS.run_refines ops _ (AS.init_inv _ _ ha) (hds_backendOK v pc hwf hp align)

theorem hds_wfb_sound (v : Hds) (h : v.wfb = true) : WF v := by
  unfold Hds.wfb at h
  simp only [Bool.and_eq_true, decide_eq_true_eq, List.all_eq_true, Bool.or_eq_true, beq_iff_eq] at h
  obtain ⟨⟨⟨h1, h2⟩, h3⟩, h4⟩ := h
  exact ⟨h1, h2, h3, fun i hi => h4 v.bat[i] (by simp)⟩

/-- **hds_read_terminates** (C11 obligation): arbitrary header/BAT contents -/
theorem hds_read_terminates (v : Hds) (off len : Nat) :
    v.iterRuns len off len none ≠ .error .nonTermination :=
  iterRuns_progress v _ _ _ _ (Nat.le_refl _)

/-! non-vacuity — the numeric coincidence the property names: cluster 0 sparse, cluster 1
    allocated at file offset = cluster size (v2 BAT entry 1). The two-cluster read returns
    zeros followed by the stored data, not zeros twice. -/
def exFile : File := ⟨2048, fun i => UInt8.ofNat (i % 251 + 1)⟩
def exHds : Hds := { fh := exFile, size := 1024, clusterSize := 512, mult := 1, bat := #[0, 1], parent := none }
example : WF exHds := hds_wfb_sound exHds (by decide)
example : (exHds.read 510 4) = .ok [0, 0, UInt8.ofNat (512 % 251 + 1), UInt8.ofNat (513 % 251 + 1)] := by decide

end Hv.C06
