/-
  C11 — termination and bounded resources on arbitrary input.

  Every loop of the models is fuel-recursive and reports `Err.nonTermination` (or `Outcome.nonTermination`) when the fuel
  runs out. The theorems below show, for *arbitrary* header / table / file contents, that this never happens with the
  fuel the read path passes: each step either errors out or makes progress ≥ 1 towards a bound that is a function of the
  request and the file size only. They are the per-loop proof obligations of C11.
-/
import HvProps.C01
import HvProps.C02
import HvProps.C03
import HvProps.C04
import HvProps.C05
import HvProps.C06
import HvProps.C20
import HvProofs.Hdd
import HvProofs.Envelope
import HvProofs.Vmx
namespace Hv.C11
open Hv

/-- VDI `_read`: any header, any block map -/
theorem vdi_read_terminates (v : Vdi.Vdi)
    (hpar : ∀ p, v.parent = some p → ∀ o l, p o l ≠ .error .nonTermination) (off len : Nat) :
    Vdi.read v off len ≠ .error .nonTermination := Vdi.read_progress v hpar off len

/-- QCOW2 `_yield_runs`: any L1 / L2 tables and sub-cluster bitmaps of any image `open` accepts — every run is ≥ 1 byte
    long, so the fuel `len` is never exhausted (C01.yieldRuns_progress_opened) -/
theorem qcow2_yieldRuns_terminates (fh : File) (df : Option File) (bk : Option Qcow2.Reader) (allow : Bool)
    (infl : Bytes → Nat → Except Err Bytes) (q : Qcow2.QCow2) (h : Qcow2.open fh df bk allow infl = .ok q) (off len : Nat) :
    q.yieldRuns len off len ≠ .error .nonTermination :=
  C01.yieldRuns_progress_opened fh df bk allow infl q h off len

/-- VHD `_read` (fixed and dynamic): any footer, header and BAT -/
theorem vhd_read_terminates (v : Vhd.Vhd) (off len : Nat) : v.read off len ≠ .error .nonTermination :=
  C04.vhd_read_terminates v off len

/-- VHDX `read_sectors`: any metadata / BAT (a block's dispatch is loop-free or the partial-run walk, which is bounded
    by the sector count) -/
theorem vhdx_read_terminates (v : Vhdx.Vhdx)
    (hchunk : ∀ b s i n, v.chunk b s i n ≠ .error .nonTermination) (sector count : Nat) :
    v.readSectors count sector count ≠ .error .nonTermination := C03.vhdx_read_terminates v hchunk sector count

/-- HDS `_iter_runs` / `_read`: any header and BAT (cluster size 0 is an error, not a loop) -/
theorem hds_read_terminates (v : Hds.Hds) (off len : Nat) : v.iterRuns len off len none ≠ .error .nonTermination :=
  C06.hds_read_terminates v off len

/-- VMDK `get_runs`: any header, grain directory and grain tables (grain size 0 is an error, not a loop) -/
theorem vmdk_getRuns_terminates (v : Vmdk.Sparse) (rs rc : Nat) (cur : Option Vmdk.Cur) :
    v.getRunsLoop rc rs rc cur ≠ .error .nonTermination := C02.getRuns_progress v rs rc cur

/-- VMDK compressed-run loop -/
theorem vmdk_compressed_run_terminates (v : Vmdk.Sparse) (fuel t off rc : Nat) (h : rc ≤ fuel) (ho : off < v.grainSize)
    (hg : ∀ s, v.readCompressedGrain s ≠ .error .nonTermination) :
    v.readCompressedRun fuel t off rc ≠ .error .nonTermination := C02.compressed_run_progress v fuel t off rc h ho hg

/-- **chain_walk_terminates**: Parallels `get_snapshot_chain` on *any* shot list — cycles of any shape (self loops,
    loops through the top, rho-shaped loops further down), dangling parents, duplicates — returns or raises: a chain
    longer than the number of shots would repeat a GUID, and a repeated GUID is refused (pigeonhole). -/
theorem chain_walk_terminates (shots : List (Nat × Nat)) (null guid : Nat) :
    Hdd.snapshotChain shots null guid ≠ .error .nonTermination := Hdd.snapshotChain_progress shots null guid

/-- vmtar member iteration: any byte string (negative sizes are refused: fix bc40280) -/
theorem vmtar_listing_terminates (f : File) : Vmtar.list f true ≠ .nonTermination := C20.vmtar_listing_terminates f

/-- **envelope_attr_loop_terminates**: the `while True` loop of `_read_envelope_attributes` on ARBITRARY bytes — any type
    codes, names without NUL, truncated values, length fields up to 2^64 − 1 — returns or raises: every iteration that
    yields an attribute consumes at least three bytes (type, flag, the name's NUL), so the fuel `length + 1` the reader is
    called with is never exhausted; hence `Envelope.__init__` (`openEnv`) returns or raises on every file. -/
theorem envelope_attr_loop_terminates (b : Bytes) :
    Envelope.readList (b.length + 1) b ≠ .error .nonTermination ∧ Envelope.readAttrs b ≠ .error .nonTermination :=
  ⟨Envelope.readList_terminates _ b (by omega), Envelope.readAttrs_terminates b⟩

/-- one iteration's progress (the reason the fuel suffices); `envelope_open_terminates` is the file-level corollary -/
theorem envelope_attr_step_progress (b : Bytes) (a : Envelope.Attr) (rest : Bytes) (h : Envelope.readOne b = .attr a rest) :
    rest.length + 3 ≤ b.length := by
  have := Envelope.readOne_cases b
  rwa [h] at this
theorem envelope_open_terminates (file : Bytes) : Envelope.openEnv file ≠ .error .nonTermination :=
  Envelope.openEnv_elim (motive := (· ≠ .error .nonTermination)) file
    (fun e he h => by cases h; rcases he with h | h | h | h <;> cases h) (fun _ _ h => nomatch h)

/-- the strict UTF-8 check inside the loop is fuel-recursive too (it answers `false` when the fuel runs out): with any fuel
    above the length it computes the same answer, so the `length + 1` it is called with never truncates a decision -/
theorem envelope_utf8_fuel_irrelevant (b : Bytes) (fuel : Nat) (h : b.length < fuel) :
    Envelope.utf8ValidF fuel b = Envelope.utf8Valid b :=
  Envelope.utf8ValidF_fuel fuel (b.length + 1) b h (by omega)

/-- **keysafe_parse_terminates**: the key-safe parser on ARBITRARY text — `_split_list`'s nesting loop is structurally
    recursive in the model (one step per character, any parenthesis depth, unbalanced or not), and the recursive
    `_parse_key_locator` (lists of lists of pairs …, to any depth the text can encode) is called with the fuel
    `length + 1`: every level consumes at least the opening parenthesis, each member is strictly shorter than the list
    text it came from, so the fuel is never exhausted. The external functions (`base64.b64decode`, `int`) are parameters;
    the only thing assumed about them is that they do not themselves return the model's out-of-fuel outcome. -/
theorem keysafe_parse_terminates (c : Vmx.Crypto) (hc : c.NoNT) (text : Bytes) :
    Vmx.fromText c text ≠ .error .nonTermination ∧
    (∀ s, Vmx.parseLocator c (s.length + 1) s ≠ .error .nonTermination) :=
  ⟨Vmx.fromText_terminates c hc text, fun s => Vmx.parseLocator_terminates c hc _ s (by omega)⟩

/-- the measure: every member of a split list is strictly shorter than the list text -/
theorem keysafe_split_members_shorter (v : Bytes) (ms : List Bytes) (h : Vmx.splitList v = .ok ms) :
    ∀ m ∈ ms, m.length < v.length := Vmx.splitList_member_length h

/-! non-vacuity: deeply nested / truncated / unbalanced key-safe texts and attribute areas are answered, not looped on -/
def c11Crypto : Vmx.Crypto :=
  { pbkdf2 := fun _ _ _ _ _ => .error .value, hmac := fun _ _ _ => .error .value, cbcDecrypt := fun _ _ _ => .error .value,
    b64decode := fun b => .ok b, parseInt := fun _ => .ok 1, utf8ok := fun _ => .ok true, parseDict := fun _ => .ok [] }
theorem c11Crypto_noNT : c11Crypto.NoNT := by
  unfold Vmx.Crypto.NoNT; constructor <;> (intro x h; cases h)
-- five levels of nesting, cut in the middle of the innermost
example : (Vmx.fromText c11Crypto (Vmx.asc "vmware:key/list/(list/(list/(list/(pair/((((")).toOption.isNone = true := by
  rw [Vmx.asc_ofList]; decide +kernel
-- a balanced three-level nesting, one member per level: answered (here with an error from deeper down), not looped on
example : (match Vmx.fromText c11Crypto (Vmx.asc "vmware:key/list/(list/(list/(x)))") with
           | .error .nonTermination => false | _ => true) = true := by decide +kernel
-- an attribute area whose bytes-typed value announces 2^63 − 1 bytes: short read, then the terminator
example : (Envelope.readAttrs ([12, 0, 0, 0, 110, 0] ++ leBytes 8 (2 ^ 63 - 1) ++ [1, 2, 3])).toOption.isSome = true := by
  decide +kernel

/-! non-vacuity: shapes of cycles that are refused rather than followed -/
example : Hdd.snapshotChain [(1, 2), (2, 2)] 0 1 = .error .value := by decide                          -- A→B→B
example : Hdd.snapshotChain [(1, 2), (2, 3), (3, 4), (4, 3)] 0 1 = .error .value := by decide          -- A→B→C→D→C
example : Hdd.snapshotChain [(1, 1)] 0 1 = .error .value := by decide                                  -- A→A

end Hv.C11
