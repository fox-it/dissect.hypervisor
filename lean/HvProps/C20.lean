/-
  C20 — vmtar: every member extracts to the bytes stored at its recorded data offset; plain tar archives
  are listed and extracted exactly as by a standard tar reader.
-/
import HvProofs.Vmtar
import HvProofs.VmtarEnc
import HvProofs.Basic
namespace Hv.C20
open Hv Hv.Vmtar

/-! extracted source positions = vmtar header format -/
theorem visor_positions_spec :
    Extracted.vmtar.frombuf_ints = [257, 264, 496, 500, 504, 508, 508, 512] := by decide
theorem visor_magic_spec : Extracted.vmtar.frombuf_magic = [118, 105, 115, 111, 114, 32, 32] := by decide
theorem visor_formats_spec : Extracted.vmtar.frombuf_formats = ["<I", "<I", "<I"] := by decide

/-- **visor_member_extracts_stored_bytes**: for *every* file content and every member the visor-aware
    listing returns — any member count, order, size, placement of the data area, GNU long names in front —
    a regular member whose header is a visor header recording a non-zero data offset extracts to exactly the
    `size` bytes at that recorded offset: the header block sits at some position `p` inside the file, the
    recorded offset is the little-endian word at `p + 496`, and `extractfile(m).read()` is
    `file[offset, offset + size)` (clamped to the file, as a read is). -/
theorem visor_member_extracts_stored_bytes (f : File) (ms : List Member) (hl : list f true = .ok ms)
    (m : Member) (hm : m ∈ ms) (hv : m.hdr.isVisor = true) (ho : m.hdr.vOffset ≠ 0)
    (hr : isReg m.hdr.typ = true) :
    ∃ p, p + 512 ≤ f.size ∧ sub (f.read p 512) 257 264 = visorMagic ∧
      m.hdr.vOffset = storedOffset f p ∧ 0 ≤ m.hdr.size ∧
      extract f m = some (f.read (storedOffset f p) m.hdr.size.toNat) := by
  obtain ⟨_, _, _, r⟩ := listFrom_members f _ _ _ _ ms (by intro m hm; cases hm) hl m hm
  obtain ⟨p, -, hp, hfb⟩ := r.own
  have hb := frombuf_visor hfb
  have hmag : sub (f.read p 512) 257 264 = visorMagic := by
    have := hb.1; rw [hv] at this; exact of_decide_eq_true this.symm
  have hoff : m.hdr.vOffset = storedOffset f p := by
    rw [(hb.2.1 hv).1]
    show leNat (sub (f.read p 512) 496 500) = storedOffset f p
    rw [File.read_eq_slice hp]
    simp only [storedOffset, sub]
    rw [slice_drop (by omega), slice_take (by omega)]
  have hs : 0 ≤ m.hdr.size := hb.2.2.1 rfl
  refine ⟨p, hp, hmag, hoff, hs, ?_⟩
  have hod := r.visor hv ho
  simp only [extract, hr, true_or, if_true, hod]
  rw [if_neg (by omega)]
  simp only [Int.toNat_natCast, hoff]

/-- **visor_next_header_adjacent**: a visor member with a recorded data offset has no inline data — the
    next header is read from the block right after its own header, independent of the size field. -/
theorem visor_next_header_adjacent (f : File) (fuel tell : Nat) (h : Hdr)
    (hh : frombuf true (f.read tell 512) = .ok h) (hv : h.isVisor = true) (ho : h.vOffset ≠ 0) :
    ∃ m, fromTarfile f true (fuel + 1) tell = .ok (m, ((tell + 512 : Nat) : Int), tell + 512)
      ∧ m.offset = tell ∧ m.offsetData = (h.vOffset : Int) :=
  ⟨_, fromTarfile_visor hh hv ho, rfl, rfl⟩

/-- **plain_tar_unchanged**: on an archive without visor headers that record a data offset (and without
    negative sizes) the visor-aware reader lists — and therefore extracts — exactly what the standard
    `tarfile` iteration does: directories, empty files, ordinary members. -/
theorem plain_tar_unchanged (f : File) (hp : PlainArchive f) : list f true = list f false :=
  listFrom_plain f hp _ _ _ _

/-- **vmtar_listing_terminates** (also a C11 obligation): for every byte string, listing the archive with
    the visor-aware reader returns or raises — the model never runs out of its fuel `size/512 + 2`. -/
theorem vmtar_listing_terminates (f : File) : list f true ≠ .nonTermination :=
  listFrom_terminates f _ _ _ _ (Nat.zero_le _) (by simp [listFuel, BLOCK])

/-- **vmtar_members_roundtrip** (the writer `Hv.VmtarEnc.encode`): for EVERY member list `ms` — visor members whose data
    lives in a data area (`visor = some off`, `off ≠ 0`), visor members without a data area (`some 0`) and ustar members
    (`none`) with their data inline, directories, empty files; names ≤ 100 bytes without NUL, sizes < 8^11, mode / uid /
    gid < 8^7, mtime < 8^11, NUL-terminated octal fields, computed checksums — and every layout `L` (file size, gap bytes)
    with the data areas anywhere behind the two end-of-archive blocks, in any order, with gaps, pairwise disjoint
    (`WF ms L`, decidable: `wfb`), the visor-aware reader lists exactly the members written — name (directories without
    their trailing slashes), type, size, mode, uid, gid, mtime, visor flag, recorded offset, `offset` = position of the
    header block, `offset_data` = the recorded offset, resp. header + 512 for inline members (`expected`, `expMember`) —
    and `extractfile(m).read()` returns the stored bytes of every file (`none` for directories). -/
theorem vmtar_members_roundtrip (ms : List MemberSpec) (L : Layout) (h : WF ms L) :
    list (encode ms L) true = .ok (expected 0 ms) ∧
    (expected 0 ms).map (extract (encode ms L)) = ms.map MemberSpec.stored := by
  have he := encode_encodes ms L h
  exact ⟨list_of_encodes _ ms h.ok he, extract_enc _ ms 0 he.hdr.append.1 he.data⟩

/-- the same for ANY file that stores the archive (`Encodes`: header section + end-of-archive blocks at 0, every data
    area's bytes at its recorded offset) — data areas may then also overlap or be shared between members. -/
theorem vmtar_members_roundtrip_file (f : File) (ms : List MemberSpec) (hok : ∀ m ∈ ms, memberOK m = true)
    (he : Encodes f ms) :
    list f true = .ok (expected 0 ms) ∧ (expected 0 ms).map (extract f) = ms.map MemberSpec.stored :=
  ⟨list_of_encodes f ms hok he, extract_enc f ms 0 he.hdr.append.1 he.data⟩

/-- what `expected` says, member by member: the `i`-th listed member is the `i`-th written one, its header at the sum of
    the encoded lengths of its predecessors (512 each, plus the padded inline data) -/
theorem vmtar_expected_member (ms : List MemberSpec) (i : Nat) (hi : i < ms.length) :
    (expected 0 ms).length = ms.length ∧
    ∃ e, (expected 0 ms)[i]? = some e ∧ e.offset = (hdrSection (ms.take i)).length ∧
      e.name = ms[i].listedName ∧ e.hdr.typ = ms[i].typ ∧ e.hdr.size = (ms[i].data.length : Int) ∧
      e.hdr.isVisor = ms[i].visor.isSome ∧ e.hdr.vOffset = ms[i].visor.getD 0 ∧
      e.offsetData = (if ms[i].inline then (((hdrSection (ms.take i)).length + 512 : Nat) : Int)
                      else ((ms[i].visor.getD 0 : Nat) : Int)) := by
  refine ⟨expected_length ms 0, expMember (0 + (hdrSection (ms.take i)).length) ms[i], ?_, ?_⟩
  · rw [← expected_getElem ms 0 i hi]
    exact List.getElem?_eq_getElem _
  · simp [expMember, expHdr]

/-! non-vacuity of the round trip: five members — a visor file whose 3 data bytes sit at the unaligned offset 4200, a
    ustar directory `d/`, a ustar file with 2 inline bytes, a visor file whose data area (4100) lies BEFORE the first
    one's, an empty visor file without data area — in a 4300-byte file with garbage in the gaps. -/
def rtMembers : List MemberSpec :=
  [ { name := [97], isDir := false, visor := some 4200, data := [1, 2, 3] },
    { name := [100, 47], isDir := true, visor := none, data := [] },
    { name := [98], isDir := false, visor := none, data := [7, 8], mode := 0o755, uid := 1000, gid := 100, mtime := 1700000000 },
    { name := [99], isDir := false, visor := some 4100, data := [9] },
    { name := [101], isDir := false, visor := some 0, data := [] } ]
def rtLayout : Layout := ⟨4300, fun i => UInt8.ofNat (i + 1)⟩

example : WF rtMembers rtLayout := by decide +kernel

/-! non-vacuity: a concrete archive (visor member with its data in a trailing data area, a directory, an
    inline ustar member): its listing and the extracted members are what was written -/
def exCheck : Bool :=
  match list (exFile) true with
  | .ok [a, d, b] =>
    a.hdr.isVisor && a.hdr.vOffset == 2560 && isReg a.hdr.typ && a.name == [97] &&
    extract (exFile) a == some [1, 2, 3] &&
    d.hdr.typ == tDIR && d.name == [100] && extract (exFile) d == none &&
    !b.hdr.isVisor && b.offsetData == 1536 && extract (exFile) b == some [7, 8]
  | _ => false

/-- `exCheck` with the listing taken from `f`. It exists for the proof of `exCheck = true` below: unfolded against
    anything else, `exCheck` makes the kernel evaluate `list exFile true`. -/
def exCheckVia (f : File) : Bool :=
  match list f true with
  | .ok [a, d, b] =>
    a.hdr.isVisor && a.hdr.vOffset == 2560 && isReg a.hdr.typ && a.name == [97] &&
    extract (exFile) a == some [1, 2, 3] &&
    d.hdr.typ == tDIR && d.name == [100] && extract (exFile) d == none &&
    !b.hdr.isVisor && b.offsetData == 1536 && extract (exFile) b == some [7, 8]
  | _ => false

example : exCheck = true := by
  -- Unfolding `exCheck` next to its own `match` makes the kernel reduce the `match` first, that is evaluate
  -- `list exFile true`.  With the file a variable it cannot; the listing comes
  -- from `exFile_list`, and `exCheck` is `exCheckVia exFile` by unfolding both sides.
  have key : ∀ f, list f true = .ok (expected 0 exMembers) → exCheckVia f = true := by
    intro f h
    unfold exCheckVia
    rw [h]
    decide +kernel
  exact key exFile exFile_list

end Hv.C20
