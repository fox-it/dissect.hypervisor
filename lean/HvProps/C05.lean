/-
  C05 — VDI: every byte range reads as the guest-visible content.
-/
import HvProofs.Vdi
import HvProofs.Stream
namespace Hv.C05
open Hv Hv.Vdi

/-! extracted values = format specification (VirtualBox VDICore.h header v1.1) -/
theorem UNALLOCATED_spec : Extracted.vdi.UNALLOCATED = -1 := by decide
theorem SPARSE_spec : Extracted.vdi.SPARSE = -2 := by decide
theorem VDI_SIGNATURE_spec : Extracted.vdi.VDI_SIGNATURE = 0xBEDA107F := by decide
theorem header_layout_spec :
    Extracted.vdi.HeaderDescriptor.Signature = ⟨0x40, 4, false, 0, 32⟩ ∧
    Extracted.vdi.HeaderDescriptor.BlocksOffset = ⟨0x154, 4, false, 0, 32⟩ ∧
    Extracted.vdi.HeaderDescriptor.DataOffset = ⟨0x158, 4, false, 0, 32⟩ ∧
    Extracted.vdi.HeaderDescriptor.SectorSize = ⟨0x168, 4, false, 0, 32⟩ ∧
    Extracted.vdi.HeaderDescriptor.DiskSize = ⟨0x170, 8, false, 0, 64⟩ ∧
    Extracted.vdi.HeaderDescriptor.BlockSize = ⟨0x178, 4, false, 0, 32⟩ ∧
    Extracted.vdi.HeaderDescriptor.BlocksInHDD = ⟨0x180, 4, false, 0, 32⟩ := by decide

/-- **vdi_read_correct**: for every well-formed image (any block size, any block map, any
    physical placement) and every request — also one running past the end of the disk —
    `_read` returns exactly the guest bytes, clamped to the disk size. -/
theorem vdi_read_correct (v : Vdi) (pc : Nat → UInt8) (hwf : WF v) (hp : ParentOK v pc)
    (off len : Nat) :
    read v off len = .ok (slice (guest v pc) off (min len (v.size - off))) :=
  read_correct v pc hwf hp off len

/-- in the vocabulary of the property: the reader reads as the guest disk -/
theorem vdi_reads_as (v : Vdi) (pc : Nat → UInt8) (hwf : WF v) (hp : ParentOK v pc) :
    ReadsAs (read v) ⟨v.size, guest v pc⟩ := by
  intro off len h
  rw [vdi_read_correct v pc hwf hp, clamp_eq h]

/-- the backend contract of the buffered stream layer (C08), for every buffer size -/
theorem vdi_backendOK (v : Vdi) (pc : Nat → UInt8) (hwf : WF v) (hp : ParentOK v pc) (align : Nat) :
    BackendOK v.size align (read v) (guest v pc) :=
  backendOK_of_clamped v.size align (read v) (guest v pc) (vdi_read_correct v pc hwf hp)

/-- **vdi_stream_correct**: the opened VDI *stream* (buffered layer over `_read`) returns,
    for any history of operations and any buffer size, what the guest-content array returns. -/
theorem vdi_stream_correct (v : Vdi) (pc : Nat → UInt8) (hwf : WF v) (hp : ParentOK v pc)
    (align : Nat) (ha : 0 < align) (ops : List Op) :
    AS.run (read v) (AS.init v.size align) ops = Spec.run (guest v pc) ⟨v.size, 0⟩ ops :=
  AS.run_refines ops _ (AS.init_inv _ _ ha) (vdi_backendOK v pc hwf hp align)

/-- **vdi_read_terminates** (also a C11 obligation): for *arbitrary* header and map
    contents the read loop makes progress. -/
theorem vdi_read_terminates (v : Vdi)
    (hpar : ∀ p, v.parent = some p → ∀ o l, p o l ≠ .error .nonTermination) (off len : Nat) :
    read v off len ≠ .error .nonTermination :=
  read_progress v hpar off len

/-! non-vacuity: a concrete 3-block image (blocks stored in reverse order, one zero block)
    satisfies `WF`, and a cross-block read evaluates to the expected bytes. -/
def exFile : File := ⟨16, fun i => UInt8.ofNat (100 + i)⟩
def exVdi : Vdi := { fh := exFile, dataOffset := 4, blockSize := 4, sectorSize := 512, size := 11,
                     map := #[1, -2, 0], parent := none }

example : WF exVdi := wfb_sound exVdi (by decide +kernel)

example : read exVdi 2 8 = .ok [110, 111, 0, 0, 0, 0, 104, 105] := by decide

end Hv.C05
