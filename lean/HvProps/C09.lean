/-
  C09 — parsing never modifies evidence (read-only operation).
-/
import Hv.Effects
namespace Hv.C09
open Hv Hv.Effects

/-- **all_sites_readonly**: every call site in dissect/hypervisor/**/*.py that can touch the file system or a
    caller-supplied handle (table re-extracted from the source on every run) is read-only: path opens have mode
    `rb`/`r`, text/bytes are only *read* from paths, write-like methods only ever target a private in-memory stream
    (directly or through a helper all of whose callers pass one), there is no os/shutil/tempfile/subprocess/socket call,
    no dynamic evaluation, no in-place crypto output into a caller buffer — except the decrypt tool's `--output`. -/
theorem all_sites_readonly : Extracted.effects.sites.all Site.ok = true := by decide +kernel

/-- **single_writer**: the only sites that write to anything but a private stream are the two lines of the decrypt tool
    (`tools/envelope.py`, in `main` or in a helper all of whose callers pass `args.output`) that open and write the file named
    by `--output`. -/
theorem single_writer :
    (writers Extracted.effects.sites).map (fun s => (s.1, s.2.2)) =
      [("tools/envelope.py", "open-cli-output"), ("tools/envelope.py", "write-cli-output")] := by decide +kernel

/-- **output_named_by_user**: the file the decrypt tool writes is always one the user named: the option `-o` / `--output` is a
    required argparse option without a default and nothing else assigns the parsed arguments. -/
theorem output_named_by_user : outputNamedByUser Extracted.effects.cliArgs = true := by decide +kernel

/-- **only_program_is_the_decrypter**: the library ships exactly one program — the single module under
    `dissect/hypervisor/tools` with a `main` (there is no `__main__.py`) and the single console script of pyproject.toml are the
    envelope decrypter, whose writes `single_writer` / `output_named_by_user` confine to `--output`. Together with
    `all_sites_readonly` (which also rejects borrowed code: `__code__`, `types.FunctionType`, `exec`, `runpy` …) no other entry
    point exists through which the package could produce output. -/
theorem only_program_is_the_decrypter :
    onlyDecrypter Extracted.effects.tools Extracted.effects.scripts = true := by decide +kernel

theorem readonly_step (fs : FS) (op : Op) (h : op.readOnly = true) : fsStep fs op = fs := by
  cases op <;> first | rfl | (simp [Op.readOnly] at h)

/-- **readonly_trace_preserves_fs**: any trace of read-only operations (open for reading, read, seek, tell, close,
    stat — in any number and order) leaves every file's content, name and existence unchanged. -/
theorem readonly_trace_preserves_fs (fs : FS) (ops : List Op) (h : ∀ op ∈ ops, op.readOnly = true) :
    fsRun fs ops = fs := by
  induction ops generalizing fs with
  | nil => rfl
  | cons op ops ih =>
    simp only [fsRun, List.foldl_cons]
    rw [readonly_step fs op (h op (by simp))]
    exact ih fs (fun o ho => h o (by simp [ho]))

theorem upd_other (fs : FS) (p q : String) (v : Option Bytes) (h : q ≠ p) : upd fs p v q = fs q := by
  simp [upd, h]

theorem allowed_step_other (out : Option String) (fs : FS) (op : Op) (h : op.allowed out = true)
    (q : String) (hq : some q ≠ out) : fsStep fs op q = fs q := by
  cases op with
  | openWrite p t c =>
    simp only [Op.allowed, Op.readOnly, Bool.false_or] at h
    cases out with
    | none => simp at h
    | some o =>
      have hp : p = o := by simpa using h
      have hne : q ≠ p := by intro e; apply hq; rw [e, hp]
      simp only [fsStep]
      cases fs p with
      | none => cases c <;> simp [upd, hne]
      | some b => cases t <;> simp [upd, hne]
  | write p off d =>
    simp only [Op.allowed, Op.readOnly, Bool.false_or] at h
    cases out with
    | none => simp at h
    | some o =>
      have hp : p = o := by simpa using h
      have hne : q ≠ p := by intro e; apply hq; rw [e, hp]
      simp only [fsStep]
      cases fs p with
      | none => rfl
      | some b => simp [upd, hne]
  | truncate p n => simp [Op.allowed, Op.readOnly] at h
  | unlink p => simp [Op.allowed, Op.readOnly] at h
  | rename p r => simp [Op.allowed, Op.readOnly] at h
  | mkdir p => simp [Op.allowed, Op.readOnly] at h
  | openRead p => rfl
  | read p o l => rfl
  | seek p => rfl
  | tell p => rfl
  | close p => rfl
  | stat p => rfl

/-- **only_the_named_output_changes**: a trace in which every operation is allowed for output `out` (read-only, or
    an open-for-writing / write of exactly the file named by `--output`) leaves every *other* path untouched. -/
theorem only_the_named_output_changes (out : Option String) (fs : FS) (ops : List Op)
    (h : ∀ op ∈ ops, op.allowed out = true) (q : String) (hq : some q ≠ out) :
    fsRun fs ops q = fs q := by
  induction ops generalizing fs with
  | nil => rfl
  | cons op ops ih =>
    simp only [fsRun, List.foldl_cons]
    have := ih (fsStep fs op) (fun o ho => h o (by simp [ho]))
    simp only [fsRun] at this
    rw [this, allowed_step_other out fs op (h op (by simp)) q hq]

/-- the driver's verdict on an observed trace is exactly "every operation is allowed" -/
theorem firstViolation_none_iff (out : Option String) (ops : List Op) :
    ∀ n, firstViolation out n ops = none ↔ ∀ op ∈ ops, op.allowed out = true := by
  induction ops with
  | nil => intro n; simp [firstViolation]
  | cons op ops ih =>
    intro n
    simp only [firstViolation]
    split
    · rename_i h; rw [ih]; simp [h]
    · rename_i h; simp [h]

/-! non-vacuity: a write does change the file system; a read-only trace of a real run shape does not -/
example : fsRun (fun p => if p = "a" then some [1, 2, 3] else none) [.openRead "a", .read "a" 0 3, .close "a"] "a" = some [1, 2, 3] := by decide
example : fsRun (fun p => if p = "a" then some [1, 2, 3] else none) [.write "a" 1 [9]] "a" = some [1, 9, 3] := by decide
example : firstViolation none 0 [.openRead "a", .write "a" 0 [1]] = some 1 := by decide
example : firstViolation (some "out") 0 [.openRead "a", .openWrite "out" true true, .write "out" 0 [1]] = none := by decide

end Hv.C09
