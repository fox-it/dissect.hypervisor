/-
  C13 — lazy access: correct at multi-terabyte scale. The wide-offset obligations: every mask, shift and bit-field
  through which a reader decodes a file offset keeps every offset the format can express (beyond 2^32 bytes and 2^32
  sectors), with the masks / layouts taken from the extraction.

  The I/O clause ("proportional to the request, never scanning") is stated on the pure models as *footprint* theorems:
  `Hv.Footprint.{vdi,vhd,hds,vhdx,vmdk,qcow2Meta/qcow2Data}` name, from the geometry alone, the file ranges a read of
  `[off, off+len)` may look at (the table entries of the units the request touches and the requested part of each
  allocated unit; VHDX: sector-bitmap entries and bitmap bytes of partially present blocks; VMDK: one grain-table entry
  per grain; QCOW2: the L2 entries of the guest clusters touched, which bounds the look-ahead of run coalescing);
  `*_read_footprint`: the reader's result is the same on any two files of equal size that agree on those ranges;
  `*_open_footprint`: the same for the constructors (header + the tables loaded eagerly);
  `io_bound`: the footprint's total length is bounded by the request and the geometry only — no term for the number
  of allocated units or the size of the file; `no_scan`: every data range lies inside a unit the request maps to.
  `io_bound_tables` / `no_scan_tables`: the same for VHDX, VMDK sparse extents and QCOW2.
-/
import HvProofs.Wide
import HvProofs.Basic
import HvProofs.Footprint
import HvProofs.FootprintVhdxOpen
import HvProofs.FootprintVmdk
import HvProofs.FootprintQcow2
namespace Hv.C13
open Hv Hv.Wide

/-! extracted masks = the formats' bit ranges -/
theorem qcow2_masks_spec :
    Extracted.qcow2.L2E_OFFSET_MASK = (2 ^ (56 - 9) - 1) <<< 9 ∧ Extracted.qcow2.L1E_OFFSET_MASK = (2 ^ (56 - 9) - 1) <<< 9 ∧
    Extracted.qcow2.QCOW_OFLAG_COPIED = 2 ^ 63 ∧ Extracted.qcow2.QCOW_OFLAG_COMPRESSED = 2 ^ 62 ∧
    Extracted.qcow2.QCOW_OFLAG_ZERO = 2 ^ 0 := by decide

/-- **qcow2_offset_mask_wide**: every host cluster offset below 2^56 (512-aligned, as every cluster is) survives the
    L2 offset mask, whichever of the COPIED (bit 63) and ZERO (bit 0) flags are set — in particular offsets ≥ 2^32. -/
theorem qcow2_offset_mask_wide (o : Nat) (ho : o < 2 ^ 56) (hal : o % 512 = 0) (copied zero : Bool) :
    (o ||| ((if copied then Extracted.qcow2.QCOW_OFLAG_COPIED else 0) ||| (if zero then Extracted.qcow2.QCOW_OFLAG_ZERO else 0)))
      &&& Extracted.qcow2.L2E_OFFSET_MASK = o := by
  obtain ⟨h1, _, h3, _, h5⟩ := qcow2_masks_spec
  rw [h1, h3, h5]
  apply mask_preserves 9 56 o _ (by omega) ho hal
  intro i hi1 hi2
  rw [Nat.testBit_or, if_two_pow_testBit copied 63 i (by omega), if_two_pow_testBit zero 0 i (by omega)]
  rfl

/-- **qcow2_l1_mask_wide**: L2 table offsets below 2^56 survive the L1 mask (COPIED flag or not) -/
theorem qcow2_l1_mask_wide (o : Nat) (ho : o < 2 ^ 56) (hal : o % 512 = 0) (copied : Bool) :
    (o ||| (if copied then Extracted.qcow2.QCOW_OFLAG_COPIED else 0)) &&& Extracted.qcow2.L1E_OFFSET_MASK = o := by
  obtain ⟨_, h2, h3, _, _⟩ := qcow2_masks_spec
  rw [h2, h3]
  apply mask_preserves 9 56 o _ (by omega) ho hal
  intro i hi1 hi2
  exact if_two_pow_testBit copied 63 i (by omega)

/-- **qcow2_compressed_descriptor_wide**: for every cluster size (cluster_bits 9..21) a compressed-cluster
    descriptor `COMPRESSED | (nb_csectors-1) << x | host_offset` (x = 62 − (cluster_bits − 8)) decodes to exactly
    that host offset (any offset below 2^x, i.e. up to 2^61) and that sector count. -/
theorem qcow2_compressed_descriptor_wide (q : Qcow2.QCow2) (hcb : 9 ≤ q.clusterBits ∧ q.clusterBits ≤ 21)
    (coff n : Nat) (hc : coff < 2 ^ q.csizeShift) (hn : n < 2 ^ (q.clusterBits - 8)) :
    let desc := 2 ^ 62 + n * 2 ^ q.csizeShift + coff
    desc &&& q.clusterOffsetMask = coff ∧ (desc >>> q.csizeShift) &&& q.csizeMask = n := by
  intro desc
  simp only [Qcow2.QCow2.clusterOffsetMask, Qcow2.QCow2.csizeMask, Nat.and_two_pow_sub_one_eq_mod, Nat.shiftRight_eq_div_pow]
  have hs : q.csizeShift + (q.clusterBits - 8) = 62 := by simp only [Qcow2.QCow2.csizeShift]; omega
  have h62 : (2 : Nat) ^ 62 = 2 ^ (q.clusterBits - 8) * 2 ^ q.csizeShift := by rw [← Nat.pow_add, Nat.add_comm, hs]
  have hpos : 0 < 2 ^ q.csizeShift := Nat.two_pow_pos _
  constructor
  · show (2 ^ 62 + n * 2 ^ q.csizeShift + coff) % 2 ^ q.csizeShift = coff
    rw [h62, ← Nat.add_mul, Nat.add_comm, Nat.add_mul_mod_self_right, Nat.mod_eq_of_lt hc]
  · show (2 ^ 62 + n * 2 ^ q.csizeShift + coff) / 2 ^ q.csizeShift % 2 ^ (q.clusterBits - 8) = n
    rw [h62, ← Nat.add_mul, Nat.add_comm, Nat.add_mul_div_right _ _ hpos, Nat.div_eq_of_lt hc, Nat.zero_add,
      Nat.add_mod_left, Nat.mod_eq_of_lt hn]

/-! VMDK SE-sparse grain entries: type nibble, low 12 bits of the sector in bits 48..59, the rest in bits 0..47 -/
theorem sesparse_masks_spec :
    Vmdk.G_HI_MASK = (2 ^ 12 - 1) <<< 48 ∧ Vmdk.G_HI_SHIFT = 48 ∧ Vmdk.G_LO_MASK = 2 ^ 48 - 1 ∧ Vmdk.G_LO_SHIFT = 12 ∧
    Extracted.vmdk.SESPARSE_GRAIN_TYPE_MASK = (2 ^ 4 - 1) <<< 60 ∧
    Extracted.vmdk.SESPARSE_GRAIN_TYPE_ALLOCATED = 3 <<< 60 := by decide

/-- **sesparse_entry_wide**: an allocated SE-sparse grain entry for grain number `s` — any `s < 2^60`, far beyond
    2^32 — decodes to the sector `grains_offset + s · grain_size`. -/
theorem sesparse_entry_wide (v : Vmdk.Sparse) (s : Nat) (hs : s < 2 ^ 60) :
    v.decodeSe (3 * 2 ^ 60 + (s % 4096) * 2 ^ 48 + s / 4096) = .ok (v.grainsOffset + s * v.grainSize) := by
  obtain ⟨h1, h2, h3, h4, h5, h6⟩ := sesparse_masks_spec
  generalize he : 3 * 2 ^ 60 + s % 4096 * 2 ^ 48 + s / 4096 = e
  simp only [Nat.reducePow] at he hs
  have d60 : e >>> 60 = 3 := by simp only [Nat.shiftRight_eq_div_pow, Nat.reducePow]; omega
  have d48 : e >>> 48 = 3 * 4096 + s % 4096 := by simp only [Nat.shiftRight_eq_div_pow, Nat.reducePow]; omega
  have hhi : (3 * 4096 + s % 4096) % 2 ^ 12 = s % 4096 := by omega
  have hlo : e % 2 ^ 48 = s / 4096 := by simp only [Nat.reducePow]; omega
  have hor : s % 4096 ||| (s / 4096) <<< 12 = s := by
    rw [Nat.or_comm, ← Nat.shiftLeft_add_eq_or_of_lt (Nat.mod_lt _ (by decide)), Nat.shiftLeft_eq]
    exact Nat.div_add_mod' s 4096
  unfold Vmdk.Sparse.decodeSe
  dsimp only
  rw [h1, h2, h3, h4, h5, and_mask_shiftLeft, and_mask_shiftLeft, d60, d48, hhi, Nat.shiftLeft_shiftRight,
    Nat.and_two_pow_sub_one_eq_mod, hlo, hor, ← h6, if_neg (by decide), if_neg (by decide), if_pos rfl]

/-- **vhdx_file_offset_wide**: a VHDX BAT entry `state | file_offset_mb << 20` decodes, through the extracted
    bit-field layout, to exactly that state and that MiB offset for every `file_offset_mb < 2^44` (16 EiB). -/
theorem vhdx_file_offset_wide (state mb : Nat) (hs : state < 8) (hm : mb < 2 ^ 44) :
    Extracted.vhdx.bat_entry.file_offset_mb.decode (leBytes 8 (state + mb * 2 ^ 20)) = mb ∧
    Extracted.vhdx.bat_entry.state.decode (leBytes 1 ((state + mb * 2 ^ 20) % 256)) = state := by
  have e1 : Extracted.vhdx.bat_entry.file_offset_mb = ⟨0, 8, false, 20, 44⟩ := by decide
  have e2 : Extracted.vhdx.bat_entry.state = ⟨0, 1, false, 0, 3⟩ := by decide
  rw [e1, e2]
  simp only [Field.decode, Bool.false_eq_true, if_false]
  rw [leNat_leBytes_lt 8 _ (by omega), leNat_leBytes_lt 1 _ (by omega)]
  constructor <;> omega

/-- **vhd_bat_entry_unsigned**: a VHD BAT entry is an unsigned big-endian 32-bit sector number (format `>I`): every value
    below 2^32 decodes to itself, never to a negative number. -/
theorem vhd_bat_entry_unsigned (e : Nat) (he : e < 2 ^ 32) :
    Extracted.vhd.BAT_ENTRY_FORMAT = ">I" ∧ beNat (beBytes 4 e) = e :=
  ⟨by decide, beNat_beBytes 4 e he⟩

/-! non-vacuity: concrete far offsets -/
example : (0xFF000000 * 512 : Nat) ≥ 2 ^ 40 ∧ beNat (beBytes 4 0xFF000000) = 0xFF000000 := by decide
example : ((2 ^ 55 + 2 ^ 33 : Nat) ||| 2 ^ 63) &&& Extracted.qcow2.L2E_OFFSET_MASK = 2 ^ 55 + 2 ^ 33 := by decide

section footprint
open Hv.Footprint

/-- **vdi_read_footprint**: `VDI._read(off, len)` looks only at the requested part of the data blocks that the (already
    loaded) block map assigns to the block indices `off / bs .. (off+len-1) / bs`: any other file of the same size that
    agrees on those ranges gives the same result (bytes or error). No hypothesis on the image. -/
theorem vdi_read_footprint (v : Vdi.Vdi) (f' : File) (off len : Nat) (hsz : v.fh.size = f'.size)
    (h : ∀ r ∈ Footprint.vdi v off len, ∀ p, r.1 ≤ p → p < r.1 + r.2 → v.fh.byte p = f'.byte p) :
    Vdi.read v off len = Vdi.read { v with fh := f' } off len :=
  Footprint.vdi_read_footprint v f' off len ⟨hsz, h⟩

/-- **vdi_open_footprint**: `VDI.__init__` looks only at the 456-byte header and the block map the header names -/
theorem vdi_open_footprint (f f' : File) (par : Option Vdi.Reader) (hsz : f.size = f'.size)
    (h : ∀ r ∈ Footprint.vdiOpen f, ∀ p, r.1 ≤ p → p < r.1 + r.2 → f.byte p = f'.byte p) :
    Vdi.open f' par = (Vdi.open f par).map (fun v => { v with fh := f' }) :=
  Footprint.vdi_open_footprint f f' par ⟨hsz, h⟩

/-- **vhd_read_footprint**: `VHD._read(off, len)` looks only at the 4-byte BAT entries of the blocks the request's
    sectors touch and at the requested sectors inside the blocks those entries name (fixed disks: the requested
    sectors). -/
theorem vhd_read_footprint (v : Vhd.Vhd) (f' : File) (off len : Nat) (hsz : v.fh.size = f'.size)
    (h : ∀ r ∈ Footprint.vhd v off len, ∀ p, r.1 ≤ p → p < r.1 + r.2 → v.fh.byte p = f'.byte p) :
    v.read off len = ({ v with fh := f' } : Vhd.Vhd).read off len :=
  Footprint.vhd_read_footprint v f' off len ⟨hsz, h⟩

/-- **vhd_open_footprint**: `VHD.__init__` looks only at the last 512 bytes and the dynamic header the footer names -/
theorem vhd_open_footprint (f f' : File) (hsz : f.size = f'.size)
    (h : ∀ r ∈ Footprint.vhdOpen f, ∀ p, r.1 ≤ p → p < r.1 + r.2 → f.byte p = f'.byte p) :
    Vhd.open f' = (Vhd.open f).map (fun v => { v with fh := f' }) :=
  Footprint.vhd_open_footprint f f' ⟨hsz, h⟩

/-- **hds_read_footprint**: `HDS._read(off, len)` — run coalescing included — looks only at the requested part of the
    clusters that the (already loaded) BAT assigns to the cluster indices the request touches. -/
theorem hds_read_footprint (v : Hds.Hds) (f' : File) (off len : Nat) (hsz : v.fh.size = f'.size)
    (h : ∀ r ∈ Footprint.hds v off len, ∀ p, r.1 ≤ p → p < r.1 + r.2 → v.fh.byte p = f'.byte p) :
    v.read off len = ({ v with fh := f' } : Hds.Hds).read off len :=
  Footprint.hds_read_footprint v f' off len ⟨hsz, h⟩

/-- **hds_open_footprint**: `HDS.__init__` + `bat` look only at the 64-byte header and the BAT behind it -/
theorem hds_open_footprint (f f' : File) (par : Option Hds.Reader) (hsz : f.size = f'.size)
    (h : ∀ r ∈ Footprint.hdsOpen f, ∀ p, r.1 ≤ p → p < r.1 + r.2 → f.byte p = f'.byte p) :
    Hds.open f' par = (Hds.open f par).map (fun v => { v with fh := f' }) :=
  Footprint.hds_open_footprint f f' par ⟨hsz, h⟩

/-- **vhdx_read_footprint**: `VHDX._read(off, len)` looks only at the 8-byte BAT entries of the payload blocks the
    request's sectors touch, at the requested sectors of the fully present ones, and — for a PARTIALLY_PRESENT block — at
    the sector-bitmap BAT entry, the bitmap bytes that hold the bits of the requested sectors, and the requested sectors
    (the run counts of `_iter_partial_runs(bitmap, start, n)` add up to at most `n`: `Footprint.vhdx_runs_total`, from
    `Layers.iterPartialRuns_eq`). No hypothesis on the image; a parent, if any, is the same on both sides. -/
theorem vhdx_read_footprint (v : Vhdx.Vhdx) (f' : File) (off len : Nat) (hsz : v.fh.size = f'.size)
    (h : ∀ r ∈ Footprint.vhdx v off len, ∀ p, r.1 ≤ p → p < r.1 + r.2 → v.fh.byte p = f'.byte p) :
    v.read off len = ({ v with fh := f' } : Vhdx.Vhdx).read off len :=
  Footprint.vhdx_read_footprint v f' off len ⟨hsz, h⟩

/-- **vhdx_open_footprint**: `VHDX.__init__` looks only at the file identifier, both headers, both region tables, the
    metadata table of the metadata region and the items it names (parent locator entries, keys and values included):
    on a file of equal size that agrees on `Footprint.vhdxOpen` it fails with the same error or builds the same object
    (up to the handle it keeps). The BAT is not read at open. No hypothesis on the image. -/
theorem vhdx_open_footprint (f f' : File) (par : Option Vhdx.SectorReader) (hsz : f.size = f'.size)
    (h : ∀ r ∈ Footprint.vhdxOpen f, ∀ p, r.1 ≤ p → p < r.1 + r.2 → f.byte p = f'.byte p) :
    Vhdx.open f' par = (Vhdx.open f par).map (fun v => { v with fh := f' }) :=
  Footprint.vhdx_open_footprint f f' par ⟨hsz, h⟩

/-- **vmdk_read_footprint**: `SparseDisk.read_sectors(sector, count)` of an uncompressed sparse extent (hosted KDMV,
    COWD, SE-sparse) — `_lookup_grain`, the run coalescer `get_runs`, the run reads — looks only at one grain-table
    entry (4 bytes; SE-sparse 8) per grain the request touches, inside the table that the (already loaded) grain
    directory names for it, and at the requested sectors of the grains those entries name. Arbitrary directory / table
    contents. (The real code transfers the whole grain table that holds an entry, once, through its LRU cache:
    `Footprint.vmdkIO`, `Footprint.vmdk_sub_vmdkIO`.) -/
theorem vmdk_read_footprint (v : Vmdk.Sparse) (f' : File) (sector count : Nat)
    (hunc : v.flags &&& Extracted.vmdk.SPARSEFLAG_COMPRESSED = 0) (hsz : v.fh.size = f'.size)
    (h : ∀ r ∈ Footprint.vmdk v sector count, ∀ p, r.1 ≤ p → p < r.1 + r.2 → v.fh.byte p = f'.byte p) :
    v.readSectors sector count = ({ v with fh := f' } : Vmdk.Sparse).readSectors sector count :=
  Footprint.vmdk_read_footprint v f' sector count hunc ⟨hsz, h⟩

/-- **qcow2_read_footprint**: `QCow2._read(offset, length)` — L1/L2 walk, `count_contiguous_subclusters`, run reads;
    standard and extended L2 entries, compressed clusters — looks in the image file only at the L2 entries (8 bytes;
    extended L2: 16) of the guest clusters the request touches and at the compressed data of the compressed ones, and in
    the data file only at the requested part of the host clusters of the normal ones. The look-ahead of run coalescing
    (DESIGN O3) is bounded by the request: `count_contiguous_subclusters` is called with
    `nb_clusters = ⌈bytes_needed / cluster_size⌉` where `bytes_needed ≤ length + offset_in_cluster` and stays inside the
    current L2 table, so every entry it consults belongs to a guest cluster of `[offset, offset + length)`
    (`Footprint.qcow2_ahead`). Arbitrary L1 / L2 contents; the header geometry is the one the gates of `open` accept. -/
theorem qcow2_read_footprint (q : Qcow2.QCow2) (hh : Qcow2.HdrOK q) (f' d' : File) (offset length : Nat)
    (hsz : q.fh.size = f'.size) (hdsz : q.dataFile.size = d'.size)
    (hm : ∀ r ∈ Footprint.qcow2Meta q offset length, ∀ p, r.1 ≤ p → p < r.1 + r.2 → q.fh.byte p = f'.byte p)
    (hd : ∀ r ∈ Footprint.qcow2Data q offset length, ∀ p, r.1 ≤ p → p < r.1 + r.2 → q.dataFile.byte p = d'.byte p) :
    q.read offset length = ({ q with fh := f', dataFile := d' } : Qcow2.QCow2).read offset length :=
  Footprint.qcow2_read_footprint q hh f' d' offset length ⟨hsz, hm⟩ ⟨hdsz, hd⟩

/-- **io_bound**: the number of file bytes a request may look at is bounded by the request and
    the geometry alone: at most `len` data bytes (VHD: whole sectors) plus one table entry per unit touched, of which
    there are at most `len / unit + 2`. No term for the number of allocated units, the table size or the file size. -/
theorem io_bound :
    (∀ (v : Vdi.Vdi) (off len : Nat), total (Footprint.vdi v off len) ≤ len) ∧
    (∀ (v : Vhd.Vhd) (off len : Nat), total (Footprint.vhd v off len) ≤ len + 511 + ((len + 511) / 512 / v.spb + 2) * 4) ∧
    (∀ (v : Hds.Hds) (off len : Nat), total (Footprint.hds v off len) ≤ len) := by
  refine ⟨fun v off len => ?_, fun v off len => ?_, fun v off len => ?_⟩
  · exact Nat.le_trans (total_units_le_len _ _ _ _ (vdiUnit_total v off _)) (Nat.min_le_left _ _)
  · have h : total (Footprint.vhd v off len) ≤ ((min len (v.size - off) + Vhd.S - 1) / Vhd.S) * Vhd.S +
        4 * (((min len (v.size - off) + Vhd.S - 1) / Vhd.S) / v.spb + 2) := by
      unfold Footprint.vhd
      cases v.kind with
      | fixed => simp [total]
      | dynamic => exact total_units_le _ _ _ _ _ _ (vhdUnit_total v _ _)
    rw [show Vhd.S = 512 from rfl] at h
    have h1 : (min len (v.size - off) + 512 - 1) / 512 ≤ (len + 511) / 512 :=
      Nat.div_le_div_right (by omega)
    have h2 : (min len (v.size - off) + 512 - 1) / 512 / v.spb ≤ (len + 511) / 512 / v.spb := Nat.div_le_div_right h1
    have h3 : (min len (v.size - off) + 512 - 1) / 512 * 512 ≤ min len (v.size - off) + 512 - 1 := Nat.div_mul_le_self _ _
    omega
  · exact total_units_le_len _ _ _ _ (hdsUnit_total v off len)

/-- **no_scan**: every range of a footprint is the table entry of a unit the request
    touches or lies inside the data area that this entry names — nothing else of the file is looked at. -/
theorem no_scan :
    (∀ (v : Vdi.Vdi) (off len : Nat), 0 < v.blockSize → ∀ r ∈ Footprint.vdi v off len,
      ∃ i b, off / v.blockSize ≤ i ∧ i ≤ (off + min len (v.size - off) - 1) / v.blockSize ∧ v.map[i]? = some b ∧
        b ≠ -1 ∧ b ≠ -2 ∧ (v.dataOffset : Int) + b * (v.blockSize : Int) ≤ (r.1 : Int) ∧
        (r.1 : Int) + (r.2 : Int) ≤ (v.dataOffset : Int) + (b + 1) * (v.blockSize : Int)) ∧
    (∀ (v : Vhd.Vhd) (off len : Nat), v.kind = .dynamic → 0 < v.spb → ∀ r ∈ Footprint.vhd v off len,
      ∃ i, off / 512 / v.spb ≤ i ∧ i ≤ (off / 512 + (min len (v.size - off) + 512 - 1) / 512 - 1) / v.spb ∧ i < v.maxEntries ∧
        (r = (v.tableOffset + i * 4, 4) ∨
          (v.batRaw i ≠ 0xFFFFFFFF ∧ v.batRaw i ≠ 0 ∧ (v.batRaw i + v.bitmapSectors) * 512 ≤ r.1 ∧
            r.1 + r.2 ≤ (v.batRaw i + v.bitmapSectors + v.spb) * 512))) ∧
    (∀ (v : Hds.Hds) (off len : Nat), 0 < v.clusterSize → ∀ r ∈ Footprint.hds v off len,
      ∃ i e, off / v.clusterSize ≤ i ∧ i ≤ (off + len - 1) / v.clusterSize ∧ i * v.clusterSize < v.size ∧
        v.bat[i]? = some e ∧ e ≠ 0 ∧ e * v.mult * 512 ≤ r.1 ∧ r.1 + r.2 ≤ e * v.mult * 512 + v.clusterSize) := by
  refine ⟨fun v off len hbs r hr => ?_, fun v off len hk hspb r hr => ?_, fun v off len hcs r hr => ?_⟩
  · obtain ⟨i, hlo, hhi, hri⟩ := mem_units hr
    obtain ⟨b, h⟩ := vdiUnit_inside v off _ i hbs hlo r hri
    exact ⟨i, b, hlo, hhi, h⟩
  · unfold vhd at hr
    rw [hk] at hr
    obtain ⟨i, hlo, hhi, hri⟩ := mem_units hr
    exact ⟨i, hlo, hhi, vhdUnit_inside v _ _ i hspb hlo r hri⟩
  · obtain ⟨i, hlo, hhi, hri⟩ := mem_units hr
    obtain ⟨e, h⟩ := hdsUnit_inside v off len i hcs hlo r hri
    exact ⟨i, e, hlo, hhi, h⟩

/-- **io_bound_tables**: the same for the formats whose tables are read per request. VHDX: whole sectors of the request,
    one bitmap bit per sector, two 8-byte BAT entries per block touched. VMDK: the requested sectors and one grain-table
    entry (≤ 8 bytes) per grain touched. QCOW2, image file: per guest cluster touched one L2 entry (≤ 16 bytes) and, if
    the cluster is compressed, its compressed data (≤ `2^(cluster_bits − 8)` sectors = two clusters); data file: at
    most `length` bytes. No term for the number of allocated units, the table sizes or the file size. -/
theorem io_bound_tables :
    (∀ (v : Vhdx.Vhdx) (off len : Nat), total (Footprint.vhdx v off len) ≤
      ((min len (v.size - off) + v.sectorSize - 1) / v.sectorSize) * (v.sectorSize + 1) +
        18 * (((min len (v.size - off) + v.sectorSize - 1) / v.sectorSize) / v.spb + 2)) ∧
    (∀ (v : Vmdk.Sparse) (sector count : Nat), total (Footprint.vmdk v sector count) ≤ count * 512 + 8 * (count / v.grainSize + 2)) ∧
    (∀ (q : Qcow2.QCow2) (offset length : Nat),
      total (Footprint.qcow2Meta q offset length) ≤ (16 + 2 ^ (q.clusterBits - 8) * 512) * (length / q.cs + 2) ∧
      total (Footprint.qcow2Data q offset length) ≤ length) := by
  refine ⟨fun v off len => total_units_le _ _ _ _ _ _ (vhdxUnit_total v _ _),
    fun v sector count => total_units_le _ _ _ _ _ _ (vmdkUnit_total v _ _), fun q offset length => ⟨?_, ?_⟩⟩
  · have := total_units_le q.cs offset length 0 _ _ fun c => by
      rw [Nat.mul_zero, Nat.zero_add]; exact qcow2MetaUnit_total q c
    rwa [Nat.mul_zero, Nat.zero_add] at this
  · exact total_units_le_len _ _ _ _ (qcow2DataUnit_total q offset length)

/-- **no_scan_tables**: VMDK — every range is the table entry of a grain the request touches (in the table the grain
    directory names) or lies inside the grain that entry names; QCOW2 — every data-file range lies inside the host
    cluster named by the L2 entry of a guest cluster the request touches, every image-file range is a word of the L2
    table named by the L1 entry of such a cluster or the compressed data its entry names. -/
theorem no_scan_tables :
    (∀ (v : Vmdk.Sparse) (sector count : Nat), 0 < v.grainSize → ∀ r ∈ Footprint.vmdk v sector count,
      ∃ g off, (sector - v.sectorOffset) / v.grainSize ≤ g ∧ g ≤ (sector - v.sectorOffset + count - 1) / v.grainSize ∧
        Footprint.vmdkTable v g = some off ∧
        (r = (off + (g % v.gtSize) * v.entryWidth, v.entryWidth) ∨
          ∃ gsec, v.lookupGrain g = .ok gsec ∧ 1 < gsec ∧ gsec * 512 ≤ r.1 ∧ r.1 + r.2 ≤ (gsec + v.grainSize) * 512)) ∧
    (∀ (q : Qcow2.QCow2) (offset length : Nat), ∀ r ∈ Footprint.qcow2Data q offset length,
      ∃ c l2o e bm, offset / q.cs ≤ c ∧ c ≤ (offset + length - 1) / q.cs ∧ Footprint.qcow2L2 q c = some l2o ∧
        q.l2Entry l2o (c % q.l2Size) = .ok (e, bm) ∧ q.clusterType e = .normal ∧
        (e &&& Extracted.qcow2.L2E_OFFSET_MASK) ≤ r.1 ∧ r.1 + r.2 ≤ (e &&& Extracted.qcow2.L2E_OFFSET_MASK) + q.cs) ∧
    (∀ (q : Qcow2.QCow2) (offset length : Nat), ∀ r ∈ Footprint.qcow2Meta q offset length,
      ∃ c l2o, offset / q.cs ≤ c ∧ c ≤ (offset + length - 1) / q.cs ∧ Footprint.qcow2L2 q c = some l2o ∧
        ((l2o ≤ r.1 ∧ r.1 + r.2 ≤ l2o + 8 * (q.l2Size * (q.l2EntrySize / 8))) ∨
          ∃ e bm, q.l2Entry l2o (c % q.l2Size) = .ok (e, bm) ∧ q.clusterType e = .compressed ∧
            r = Footprint.qcow2Comp q (e &&& Extracted.qcow2.L2E_COMPRESSED_OFFSET_SIZE_MASK))) := by
  refine ⟨fun v sector count hgs r hr => ?_, fun q offset length r hr => ?_, fun q offset length r hr => ?_⟩
  · obtain ⟨g, hlo, hhi, hrg⟩ := mem_units hr
    obtain ⟨off, h⟩ := vmdkUnit_inside v _ count g hgs hlo r hrg
    exact ⟨g, off, hlo, hhi, h⟩
  · obtain ⟨c, hlo, hhi, hrc⟩ := mem_units hr
    obtain ⟨l2o, e, bm, h⟩ := qcow2DataUnit_inside q offset length c hlo r hrc
    exact ⟨c, l2o, e, bm, hlo, hhi, h⟩
  · obtain ⟨c, hlo, hhi, hrc⟩ := mem_units hr
    obtain ⟨l2o, h⟩ := qcow2MetaUnit_inside q c r hrc
    exact ⟨c, l2o, hlo, hhi, h⟩

/-! non-vacuity: a VDI whose blocks sit beyond 2^40; a 2-byte request inside block 0 looks at 2 bytes at 2^40+…, and a
    file that differs everywhere else reads the same -/
example : Footprint.vdi exVdi 1 2 = [(2 ^ 40 + 5 * 4096 + 1, 2)] := by decide
example : Footprint.vdi exVdi 4095 4098 = [(2 ^ 40 + 5 * 4096 + 4095, 1), (2 ^ 40, 1)] := by decide
example (g : Nat → UInt8) : Vdi.read exVdi 1 2 = Vdi.read { exVdi with fh := exFile g } 1 2 := by
  refine vdi_read_footprint exVdi (exFile g) 1 2 rfl ?_
  intro r hr p h1 h2
  have : r = (2 ^ 40 + 5 * 4096 + 1, 2) := by
    have e : Footprint.vdi exVdi 1 2 = [(2 ^ 40 + 5 * 4096 + 1, 2)] := by decide
    rw [e] at hr; simpa using hr
  subst this
  have : p = 2 ^ 40 + 5 * 4096 + 1 ∨ p = 2 ^ 40 + 5 * 4096 + 2 := by simp only at h1 h2; omega
  simp only [exVdi, exFile, this, if_true]

/-! non-vacuity (VHDX): payload block 0 PARTIALLY_PRESENT at 2^42, sector bitmap at 2^41; sectors 2..3 look at the payload
    BAT entry, the sector-bitmap BAT entry, one bitmap byte and the two sectors — a file that differs everywhere else
    (arbitrary `g`) reads the same -/
example : Footprint.vhdx exVhdx 1024 1024 = [(2 ^ 20, 8), (2 ^ 20 + 2 ^ 23, 8), (2 ^ 41, 1), (2 ^ 42 + 1024, 1024)] :=
  exVhdx_footprint
example (g : Nat → UInt8) : exVhdx.read 1024 1024 = ({ exVhdx with fh := exVhdxFile g } : Vhdx.Vhdx).read 1024 1024 := by
  refine vhdx_read_footprint exVhdx (exVhdxFile g) 1024 1024 rfl ?_
  rw [exVhdx_footprint]
  intro r hr p h1 h2
  refine exVhdxFile_byte _ g p ?_
  simp only [List.mem_cons, List.not_mem_nil, or_false] at hr
  rcases hr with rfl | rfl | rfl | rfl <;> dsimp only at h1 h2 <;> omega

/-! non-vacuity (VMDK): a hosted sparse extent whose grain table sits at byte 2^40 and whose grain 1 sits at sector
    0xC0000000 (byte 1649267441664); sectors 9..10 look at grain 1's table entry and at 2 sectors of the grain — a file
    that differs everywhere else (arbitrary `g`) reads the same -/
example : Footprint.vmdk exVmdk 9 2 = [(2 ^ 40 + 4, 4), ((0xC0000000 + 1) * 512, 2 * 512)] := exVmdk_footprint
example (g : Nat → UInt8) :
    exVmdk.readSectors 9 2 = ({ exVmdk with fh := exVmdkFile g } : Vmdk.Sparse).readSectors 9 2 := by
  refine vmdk_read_footprint exVmdk (exVmdkFile g) 9 2 (by decide) rfl ?_
  rw [exVmdk_footprint]
  intro r hr p h1 h2
  refine exVmdkFile_byte _ g p ?_
  simp only [List.mem_cons, List.not_mem_nil, or_false] at hr
  rcases hr with rfl | rfl
  · exact .inl ⟨h1, h2⟩
  · exact .inr ⟨h1, h2⟩

/-! non-vacuity (QCOW2): 512-byte clusters, L2 table at 2^40, guest cluster 1 on the host cluster at 2^41; a 10-byte
    request inside cluster 1 looks at its 8-byte L2 entry and at 10 bytes of the host cluster -/
example : Qcow2.HdrOK exQ := ⟨by decide, by decide, by decide⟩
example : Footprint.qcow2Meta exQ 517 10 = [(2 ^ 40 + 8, 8)] ∧ Footprint.qcow2Data exQ 517 10 = [(2 ^ 41 + 5, 10)] :=
  exQ_footprint
example (g g' : Nat → UInt8) :
    exQ.read 517 10 = ({ exQ with fh := exQFile g, dataFile := exQFile g' } : Qcow2.QCow2).read 517 10 := by
  refine qcow2_read_footprint exQ ⟨by decide, by decide, by decide⟩ (exQFile g) (exQFile g') 517 10 rfl rfl ?_ ?_
  · rw [exQ_footprint.1]
    intro r hr p h1 h2
    cases List.mem_singleton.1 hr
    exact exQFile_byte _ g p (.inl ⟨h1, h2⟩)
  · rw [exQ_footprint.2]
    intro r hr p h1 h2
    cases List.mem_singleton.1 hr
    exact exQFile_byte _ g' p (.inr ⟨h1, h2⟩)

end footprint

end Hv.C13
