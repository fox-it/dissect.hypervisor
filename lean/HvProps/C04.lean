/-
  C04 — VHD: every byte range reads as the guest-visible content.
-/
import HvProofs.Vhd
namespace Hv.C04
open Hv Hv.Vhd

/-! extracted values = Virtual Hard Disk Image Format Specification 1.0 -/
theorem SECTOR_SIZE_spec : Extracted.vhd.SECTOR_SIZE = 512 := by decide
theorem BAT_ENTRY_spec : Extracted.vhd.BAT_ENTRY_FORMAT = ">I" ∧ Extracted.vhd.BAT_ENTRY_SIZE = 4 := by decide
theorem footer_layout_spec :
    Extracted.vhd.footer.size = 511 ∧
    Extracted.vhd.footer.features = ⟨8, 4, true, 0, 32⟩ ∧
    Extracted.vhd.footer.data_offset = ⟨16, 8, true, 0, 64⟩ ∧
    Extracted.vhd.footer.current_size = ⟨48, 8, true, 0, 64⟩ := by decide
theorem dynamic_header_layout_spec :
    Extracted.vhd.dynamic_header.size = 1024 ∧
    Extracted.vhd.dynamic_header.table_offset = ⟨16, 8, true, 0, 64⟩ ∧
    Extracted.vhd.dynamic_header.max_table_entries = ⟨28, 4, true, 0, 32⟩ ∧
    Extracted.vhd.dynamic_header.block_size = ⟨32, 4, true, 0, 32⟩ := by decide

/-- **bitmap_sectors_formula**: for every block size that is a multiple of 8 sectors the
    sector-bitmap size the code skips equals the specification's (one bit per sector,
    padded to a sector). -/
theorem bitmap_sectors_formula (v : Vhd) (h : v.blockSize % (8 * 512) = 0) :
    v.bitmapSectors = v.bitmapSectorsSpec :=
  bitmapSectors_eq_spec v h

/-- **vhd_read_correct** (fixed and dynamic): at every sector-aligned offset `_read`
    succeeds and its first `min len (size-off)` bytes are the guest bytes; in-range
    sector-multiple requests are returned exactly. Any block size (multiple of 4 KiB), any
    BAT contents and placement, sizes that are not a multiple of the block size. -/
theorem vhd_read_correct (v : Vhd) (hwf : WF v) (off len : Nat) (ho : off % 512 = 0) :
    ∃ b, v.read off len = .ok b ∧
      b.take (min len (v.size - off)) = slice v.guest off (min len (v.size - off)) ∧
      (len % 512 = 0 → off + len ≤ v.size → b = slice v.guest off len) :=
  (read_covers v hwf off len ho).prefix

/-- **vhd_backendOK**: the contract of the buffered layer, for every buffer size that is a
    multiple of the sector size. -/
theorem vhd_backendOK (v : Vhd) (hwf : WF v) (align : Nat) (ha : align % 512 = 0) :
    BackendOK v.size align v.read v.guest :=
  backendOK_of_covers ha (read_covers v hwf)

/-- **vhd_stream_correct**: the opened VHD stream equals the guest-content array under any
    history of operations and any sector-multiple buffer size. -/
theorem vhd_stream_correct (v : Vhd) (hwf : WF v) (align : Nat) (ha : align % 512 = 0)
    (hpos : 0 < align) (ops : List Op) :
    AS.run v.read (AS.init v.size align) ops = Spec.run v.guest ⟨v.size, 0⟩ ops :=
  AS.run_refines ops _ (AS.init_inv _ _ hpos) (vhd_backendOK v hwf align ha)

/-- the executable well-formedness test used by the driver is sound -/
theorem vhd_wfb_sound (v : Vhd) (h : v.wfb = true) : WF v := by
  unfold Vhd.wfb at h
  cases hk : v.kind with
  | fixed =>
    rw [hk] at h
    have hd : v.kind ≠ .dynamic := by rw [hk]; nofun
    exact ⟨fun _ => of_decide_eq_true h, fun h' => absurd h' hd, fun h' => absurd h' hd, fun h' => absurd h' hd,
      fun h' => absurd h' hd⟩
  | dynamic =>
    rw [hk] at h
    simp only [Bool.and_eq_true, decide_eq_true_eq, List.all_eq_true, List.mem_range,
      Bool.or_eq_true, beq_iff_eq] at h
    obtain ⟨⟨⟨⟨h1, h2⟩, h3⟩, h4⟩, h5⟩ := h
    have hf : v.kind ≠ .fixed := by rw [hk]; nofun
    exact ⟨fun h' => absurd h' hf, fun _ => ⟨h1, h2⟩, fun _ => h3, fun _ => h4, fun _ i hi => or_assoc.mp (h5 i hi)⟩

/-- **vhd_read_terminates** (C11 obligation): for arbitrary footer/header/BAT contents -/
theorem vhd_read_terminates (v : Vhd) (off len : Nat) : v.read off len ≠ .error .nonTermination :=
  read_progress v off len

/-- footer selection: with feature bit 1 set the 512-byte position is used, otherwise the
    legacy 511-byte footer -/
theorem footer511 (fh : File) (h : 512 ≤ fh.size) :
    footerPos fh = .ok (fh.size - 512) ∨ footerPos fh = .ok (fh.size - 511) := by
  have hf : fh.size - 512 + Extracted.vhd.footer.size ≤ fh.size :=
    Nat.le_trans (Nat.add_le_add_left (by decide : Extracted.vhd.footer.size ≤ 512) _) (Nat.le_of_eq (Nat.sub_add_cancel h))
  have hn : ¬ fh.size < 512 := Nat.not_lt.mpr h
  unfold footerPos File.field
  simp only [hn, hf, if_false, if_true, bind, Except.bind]
  split
  · exact Or.inr rfl
  · exact Or.inl rfl

/-! non-vacuity: a tiny dynamic disk (4 KiB blocks: block 0 unallocated, block 1 allocated)
    satisfies the executable `WF` test. -/
def exFile : File := ⟨16384, fun i =>
  -- BAT at 0: [0xFFFFFFFF, 0x00000004]; data elsewhere = low byte of the offset
  if i < 4 then 0xFF else if i = 7 then 4 else if i < 8 then 0 else UInt8.ofNat i⟩
def exVhd : Vhd := { fh := exFile, kind := .dynamic, size := 8192, tableOffset := 0, maxEntries := 2, blockSize := 4096 }
example : WF exVhd := vhd_wfb_sound exVhd (by decide)

end Hv.C04
