/-
  C12 — foreign or unsupported inputs are refused, not misread.
  One theorem per gate, in the form "an input that is accepted passed the gate"
  (equivalently: every value outside the accepted set is refused at open).
  Disk formats (VDI, HDS, QCOW2, VHDX, VMDK, Parallels HDD directory) and the non-disk parsers (Hyper-V storage
  files, ESXi envelope + keystore, encrypted-VMX key safe, vmtar headers); Hyper-V, envelope, keystore and key safe
  also have a `…_gate_before_content` statement: the refusal is produced by open / unlock, no tree, plaintext, key
  or updated dictionary exists afterwards.  Accepted literal values are restated as literals (0x400, 2, 1,
  "AES-256-GCM", "NONE", "vmware:key", "list" / "pair" / "phrase", the table keys), so that the theorems pin the
  extracted values.
  VHD: `read_footer` / `VHD.__init__` validate nothing (see the `example` at the end).
-/
import Hv.Vdi
import Hv.Qcow2
import Hv.Vhd
import Hv.Vhdx
import Hv.Vmdk
import HvProofs.Gates
import HvProofs.Vmtar
import HvProofs.Resolve
import HvProps.C16
namespace Hv.C12
open Hv Hv.Gates

theorem vdi_signature_gate (fh : File) (p : Option Vdi.Reader) (v : Vdi.Vdi) (h : Vdi.open fh p = .ok v) :
    fh.field 0 Extracted.vdi.HeaderDescriptor.size Extracted.vdi.HeaderDescriptor.Signature
      = .ok Extracted.vdi.VDI_SIGNATURE := by
  unfold Vdi.open at h
  exact ok_of_read_gate h

theorem hds_signature_gate (fh : File) (p : Option Hds.Reader) (v : Hds.Hds) (h : Hds.open fh p = .ok v) :
    ∃ sig, fh.chars 0 Extracted.hdd.pvd_header.size Extracted.hdd.pvd_header.m_Sig.1 Extracted.hdd.pvd_header.m_Sig.2 = .ok sig ∧
      (sig = Extracted.hdd.SIGNATURE_STRUCTURED_DISK_V1 ∨ sig = Extracted.hdd.SIGNATURE_STRUCTURED_DISK_V2) := by
  unfold Hds.open at h
  obtain ⟨sig, hs, h⟩ := bind_ok h
  obtain ⟨hsig, _⟩ := ok_of_gate h
  exact ⟨sig, hs, Decidable.or_iff_not_not_and_not.mpr hsig⟩

/-- QCOW2 header gates: magic, version ∈ {2,3}, cluster_bits ∈ [9,21], no zstd, sub-cluster
    size ≥ 512, crypt_method = 0, no unknown incompatible feature bit -/
theorem qcow2_header_gates (h : Qcow2.Hdr) (hg : h.gate = none) :
    h.magic = Extracted.qcow2.QCOW2_MAGIC ∧ (2 ≤ h.version ∧ h.version ≤ 3) ∧
    (Extracted.qcow2.MIN_CLUSTER_BITS ≤ h.clusterBits ∧ h.clusterBits ≤ Extracted.qcow2.MAX_CLUSTER_BITS) ∧
    ¬ (h.compressionType = Extracted.qcow2.QCOW2_COMPRESSION_TYPE_ZSTD ∧ Extracted.qcow2.HAS_ZSTD = 0) ∧
    2 ^ Extracted.qcow2.MIN_CLUSTER_BITS ≤ 2 ^ h.clusterBits / h.scPer ∧ h.crypt = 0 ∧
    h.incompat / (Extracted.qcow2.QCOW2_INCOMPAT_MASK + 1) = 0 := by
  unfold Qcow2.Hdr.gate at hg
  obtain ⟨h1, hg⟩ := none_of_gate hg
  obtain ⟨h2, hg⟩ := none_of_gate hg
  obtain ⟨h3, hg⟩ := none_of_gate hg
  obtain ⟨h4, hg⟩ := none_of_gate hg
  obtain ⟨h5, hg⟩ := none_of_gate hg
  obtain ⟨h6, hg⟩ := none_of_gate hg
  obtain ⟨h7, _⟩ := none_of_gate hg
  exact ⟨Decidable.of_not_not h1, (not_or.mp h2).imp Nat.le_of_not_lt Nat.le_of_not_lt,
    (not_or.mp h3).imp Nat.le_of_not_lt Nat.le_of_not_lt, h4, Nat.le_of_not_lt h5, Decidable.of_not_not h6,
    Decidable.of_not_not h7⟩

/-- QCOW2: accepted ⇒ header gates passed, required data file given, named backing file given
    (or explicitly waived) — all decided in `open`, before any read result exists -/
theorem qcow2_open_gates (fh : File) (df : Option File) (bk : Option Qcow2.Reader) (allow : Bool)
    (inf : Bytes → Nat → Except Err Bytes) (q : Qcow2.QCow2) (h : Qcow2.open fh df bk allow inf = .ok q) :
    ∃ hdr, Qcow2.readHdr fh = .ok hdr ∧ hdr.gate = none ∧
      ((hdr.incompat / Extracted.qcow2.QCOW2_INCOMPAT_DATA_FILE) % 2 = 1 → df.isSome) ∧
      (hdr.bfOff ≠ 0 → bk.isSome ∨ allow = true) := by
  unfold Qcow2.open at h
  obtain ⟨hdr, hh, h⟩ := bind_ok h
  refine ⟨hdr, hh, ?_⟩
  cases hg : hdr.gate with
  | some e => rw [hg] at h; cases h
  | none =>
    rw [hg] at h
    obtain ⟨exts, _, h⟩ := bind_ok h
    obtain ⟨dfile, hdf, h⟩ := bind_ok h
    obtain ⟨bn, hbn, _⟩ := bind_ok h
    refine ⟨rfl, fun hneed => ?_, fun hbf => ?_⟩
    · rw [if_pos hneed] at hdf
      cases df with
      | none => cases hdf
      | some d => rfl
    · rw [if_pos hbf] at hbn
      obtain ⟨hc, _⟩ := ok_of_gate hbn
      cases bk with
      | some b => exact Or.inl rfl
      | none => exact Or.inr (Decidable.of_not_not fun ha => hc ⟨rfl, ha⟩)

theorem qcow2_gate_constants :
    Extracted.qcow2.QCOW2_MAGIC = 0x514649FB ∧ Extracted.qcow2.MIN_CLUSTER_BITS = 9 ∧ Extracted.qcow2.MAX_CLUSTER_BITS = 21 ∧
    Extracted.qcow2.QCOW2_INCOMPAT_MASK = 31 ∧ Extracted.qcow2.QCOW2_INCOMPAT_DATA_FILE = 4 ∧
    Extracted.qcow2.QCOW2_INCOMPAT_EXTL2 = 16 ∧ Extracted.qcow2.HAS_ZSTD = 0 := by decide

/-! VHDX signatures and required regions (the four theorems that follow) -/
theorem vhdx_identifier_gate (fh : File) (p : Option Vhdx.SectorReader) (v : Vhdx.Vhdx) (h : Vhdx.open fh p = .ok v) :
    fh.chars 0 Extracted.vhdx.file_identifier.size Extracted.vhdx.file_identifier.signature.1
      Extracted.vhdx.file_identifier.signature.2 = .ok "vhdxfile".toUTF8.toList := by
  unfold Vhdx.open at h
  exact ok_of_read_gate h

theorem vhdx_region_table_gate (fh : File) (off : Nat) (t : List Vhdx.RegionEntry) (h : Vhdx.regionTable fh off = .ok t) :
    fh.chars off Extracted.vhdx.region_table_header.size Extracted.vhdx.region_table_header.signature.1
      Extracted.vhdx.region_table_header.signature.2 = .ok "regi".toUTF8.toList := by
  unfold Vhdx.regionTable at h
  exact ok_of_read_gate h

theorem vhdx_metadata_table_gate (fh : File) (off : Nat) (t : List (Bytes × Vhdx.MetaItem))
    (h : Vhdx.metadataTable fh off = .ok t) :
    fh.chars off Extracted.vhdx.metadata_table_header.size Extracted.vhdx.metadata_table_header.signature.1
      Extracted.vhdx.metadata_table_header.signature.2 = .ok "metadata".toUTF8.toList := by
  unfold Vhdx.metadataTable at h
  exact ok_of_read_gate h

theorem vhdx_required_region_gate (t : List Vhdx.RegionEntry) (g : Bytes) (h : ∀ e ∈ t, e.guid ≠ g) :
    Vhdx.regionGet t g = .error .format := by
  unfold Vhdx.regionGet
  rw [List.find?_eq_none.mpr fun e he => by simpa using h e (by simpa using he)]

/-- VMDK sparse extent magic (header and footer copies alike) -/
theorem vmdk_sparse_magic_gate (fh : File) (pos : Nat) (hdr : Vmdk.Hdr) (h : Vmdk.readHeader fh pos = .ok hdr) :
    fh.read pos 4 = Extracted.vmdk.VMDK_MAGIC ∨ fh.read pos 4 = Extracted.vmdk.SESPARSE_MAGIC ∨
    fh.read pos 4 = Extracted.vmdk.COWD_MAGIC := by
  unfold Vmdk.readHeader at h
  refine Decidable.byContradiction fun hn => ?_
  rw [not_or, not_or] at hn
  rw [if_neg hn.1, if_neg hn.2.1, if_neg hn.2.2] at h
  cases h

/-! ## VHDX: the rest of `VHDX.__init__` -/

/-- VHDX: accepted ⇒ the *active* header (the one with the larger sequence number, the second on a tie) carries the
    `head` signature, both region tables parsed (each through `vhdx_region_table_gate`), the first one has the
    metadata region and the BAT region, the metadata table parsed (through `vhdx_metadata_table_gate`) -/
theorem vhdx_open_gates (fh : File) (p : Option Vhdx.SectorReader) (v : Vhdx.Vhdx) (h : Vhdx.open fh p = .ok v) :
    ∃ seq1 sig1 seq2 sig2 rt1 rt2 me md be,
      fh.field (1 * Extracted.vhdx.ALIGNMENT) Extracted.vhdx.header.size Extracted.vhdx.header.sequence_number = .ok seq1 ∧
      fh.chars (1 * Extracted.vhdx.ALIGNMENT) Extracted.vhdx.header.size Extracted.vhdx.header.signature.1
        Extracted.vhdx.header.signature.2 = .ok sig1 ∧
      fh.field (2 * Extracted.vhdx.ALIGNMENT) Extracted.vhdx.header.size Extracted.vhdx.header.sequence_number = .ok seq2 ∧
      fh.chars (2 * Extracted.vhdx.ALIGNMENT) Extracted.vhdx.header.size Extracted.vhdx.header.signature.1
        Extracted.vhdx.header.signature.2 = .ok sig2 ∧
      (if seq1 > seq2 then sig1 else sig2) = "head".toUTF8.toList ∧
      Vhdx.regionTable fh (3 * Extracted.vhdx.ALIGNMENT) = .ok rt1 ∧
      Vhdx.regionTable fh (4 * Extracted.vhdx.ALIGNMENT) = .ok rt2 ∧
      Vhdx.regionGet rt1 Extracted.vhdx.METADATA_REGION_GUID = .ok me ∧ Vhdx.metadataTable fh me.fileOffset = .ok md ∧
      Vhdx.regionGet rt1 Extracted.vhdx.BAT_REGION_GUID = .ok be ∧
      (v.hasParent = true → Vhdx.metaGet md Extracted.vhdx.PARENT_LOCATOR_GUID =
        some (.parentLocator Extracted.vhdx.VHDX_PARENT_LOCATOR_GUID v.locator)) := by
  unfold Vhdx.open at h
  obtain ⟨sig, _, h⟩ := bind_ok h
  obtain ⟨_, h⟩ := ok_of_gate h
  obtain ⟨seq1, h1, h⟩ := bind_ok h
  obtain ⟨sig1, h2, h⟩ := bind_ok h
  obtain ⟨seq2, h3, h⟩ := bind_ok h
  obtain ⟨sig2, h4, h⟩ := bind_ok h
  obtain ⟨hhead, h⟩ := ok_of_ne_gate h
  obtain ⟨rt1, h5, h⟩ := bind_ok h
  obtain ⟨rt2, h6, h⟩ := bind_ok h
  obtain ⟨me, h7, h⟩ := bind_ok h
  obtain ⟨md, h8, h⟩ := bind_ok h
  -- the four required metadata items: present, of the right kind, non-zero where that is asked
  generalize Vhdx.metaGet md Extracted.vhdx.VIRTUAL_DISK_SIZE_GUID = o at h
  cases o with | none => cases h | some it => ?_
  cases it with | diskSize size => ?_ | _ => cases h
  obtain ⟨_, h⟩ := ok_of_gate h
  generalize Vhdx.metaGet md Extracted.vhdx.FILE_PARAMETERS_GUID = o at h
  cases o with | none => cases h | some it => ?_
  cases it with | fileParameters blockSize hasParent => ?_ | _ => cases h
  generalize Vhdx.metaGet md Extracted.vhdx.LOGICAL_SECTOR_SIZE_GUID = o at h
  cases o with | none => cases h | some it => ?_
  cases it with | logicalSector sectorSize => ?_ | _ => cases h
  obtain ⟨_, h⟩ := ok_of_gate h
  generalize Vhdx.metaGet md Extracted.vhdx.VIRTUAL_DISK_ID_GUID = o at h
  cases o with | none => cases h | some it => ?_
  cases it with | diskId diskId => ?_ | _ => cases h
  obtain ⟨_, h⟩ := ok_of_gate h
  obtain ⟨loc, hloc, h⟩ := bind_ok h
  obtain ⟨be, h9, h⟩ := bind_ok h
  obtain ⟨_, h⟩ := ok_of_gate h
  -- the parent locator, present and of the VHDX type when the file parameters say `has_parent`
  have hl : hasParent = true → Vhdx.metaGet md Extracted.vhdx.PARENT_LOCATOR_GUID =
      some (.parentLocator Extracted.vhdx.VHDX_PARENT_LOCATOR_GUID loc) := fun hp => by
    rw [if_pos hp] at hloc
    split at hloc
    · rename_i ty es hm
      obtain ⟨hty, hloc⟩ := ok_of_ne_gate hloc
      cases hloc
      rw [hm, hty]
    · cases hloc
  cases h
  exact ⟨seq1, sig1, seq2, sig2, rt1, rt2, me, md, be, h1, h2, h3, h4, hhead, h5, h6, h7, h8, h9, hl⟩

/-- VHDX parent locator type: a differencing image that opens has a parent locator of the VHDX type
    (any other locator type GUID — or no locator item at all — is refused at open) -/
theorem vhdx_parent_locator_type_gate (fh : File) (p : Option Vhdx.SectorReader) (v : Vhdx.Vhdx)
    (h : Vhdx.open fh p = .ok v) (hp : v.hasParent = true) :
    ∃ md, Vhdx.metaGet md Extracted.vhdx.PARENT_LOCATOR_GUID =
      some (.parentLocator Extracted.vhdx.VHDX_PARENT_LOCATOR_GUID v.locator) := by
  obtain ⟨_seq1, _sig1, _seq2, _sig2, _rt1, _rt2, _me, md, _be, _hseq1, _hsig1, _hseq2, _hsig2, _hhead, _hrt1, _hrt2, _hme,
    _hmd, _hbe, hl⟩ := vhdx_open_gates fh p v h
  exact ⟨md, hl hp⟩

/-! ## Parallels HDD directory (`HDD.__init__`, `HDD.open`) -/

/-- missing `DiskDescriptor.xml` ⇒ ValueError, whatever else the directory holds -/
theorem hdd_missing_descriptor_gate (d : HddOpen.Dir) (nullGuid defaultTop : Nat) (guid : Option Nat)
    (h : d.descriptor = none) : HddOpen.open d nullGuid defaultTop guid = .error .value := by
  unfold HddOpen.open
  rw [hdd_init_missing d h]

/-- image type: accepted ⇒ the descriptor exists and parsed, the snapshot chain resolved, and *every* image of
    *every* storage on that chain was found and has type "Compressed" or "Plain" -/
theorem hdd_image_type_gate (d : HddOpen.Dir) (nullGuid defaultTop : Nat) (guid : Option Nat)
    (r : List (Meta.Storage × Option HddOpen.Reader)) (h : HddOpen.open d nullGuid defaultTop guid = .ok r) :
    ∃ desc chain, d.descriptor = some (.ok desc) ∧
      Hdd.snapshotChain (desc.shots.map fun s => (s.guid, s.parent)) nullGuid
        (match guid with | some g => g | none => match desc.topGuid with | some x => x | none => defaultTop) = .ok chain ∧
      ∀ s ∈ desc.storages, ∀ g ∈ chain, ∃ image, HddOpen.findImage s g = .ok image ∧
        (image.type = some "Compressed" ∨ image.type = some "Plain") := by
  obtain ⟨desc, chain, hd, hc, hst⟩ := Resolve.hddOpen_ok d nullGuid defaultTop guid r h
  refine ⟨desc, chain, hd, hc, fun s hs g hg => ?_⟩
  obtain ⟨image, _, _, hi, _, _, hty⟩ := Resolve.openStorages_files d chain desc.storages r hst s hs g hg
  exact ⟨image, hi, hty⟩

/-- the refusal is not vacuous: one storage, one snapshot, an image of type "Expanding" -/
example (hs : Hds.Hds → HddOpen.Reader) :
    HddOpen.open ⟨some (.ok ⟨[⟨0, 8, [⟨7, some "Expanding", some "a.hds"⟩]⟩], none, [⟨7, 0⟩]⟩), fun _ => .ok ⟨0, fun _ => 0⟩, hs⟩ 0 7 none
      = .error .value := by rfl

/-! ## Hyper-V storage files (`HyperVFile.__init__` and the classes it instantiates) -/

theorem hyperv_gate_constants :
    Extracted.hyperv.SIGNATURE_STORAGE_HEADER = 0x01282014 ∧ Extracted.hyperv.SIGNATURE_REPLAY_LOG_HEADER = 0x01110003 ∧
    Extracted.hyperv.SIGNATURE_OBJECT_TABLE_HEADER = 0x01110001 ∧ Extracted.hyperv.SIGNATURE_KEY_TABLE_HEADER = 0x0002 ∧
    HyperV.VERSION = 0x400 ∧ Extracted.hyperv.FIRST_HEADER_OFFSET = 0 ∧ Extracted.hyperv.SECOND_HEADER_OFFSET = 0x1000 ∧
    Extracted.hyperv.OBJECT_TABLE_OFFSET = 0x2000 := by decide

/-- **all Hyper-V gates at once**: a file that `as_dict()` accepts has the storage-header signature and version
    0x400 in its active header, the replay-log signature at the offset that header names, the object-table
    signature at 0x2000, and every allocated key-table / replay-log entry of that object table passed its own
    signature check -/
theorem hyperv_accepted_gates (f : File) (t : HyperV.Tree) (h : HyperV.asDict f = .ok t) :
    ∃ h1 h2 es, HyperV.parseHeader f Extracted.hyperv.FIRST_HEADER_OFFSET = .ok h1 ∧
      HyperV.parseHeader f Extracted.hyperv.SECOND_HEADER_OFFSET = .ok h2 ∧
      (HyperV.chooseHeader h1 h2).signature = Extracted.hyperv.SIGNATURE_STORAGE_HEADER ∧
      (HyperV.chooseHeader h1 h2).version = 0x400 ∧
      f.field (HyperV.chooseHeader h1 h2).replayLogOffset HyperV.LOG Extracted.hyperv.HyperVStorageReplayLog.signature
        = .ok Extracted.hyperv.SIGNATURE_REPLAY_LOG_HEADER ∧
      f.field Extracted.hyperv.OBJECT_TABLE_OFFSET HyperV.OTH Extracted.hyperv.HyperVStorageObjectTable.signature
        = .ok Extracted.hyperv.SIGNATURE_OBJECT_TABLE_HEADER ∧
      HyperV.loadObjectTable f Extracted.hyperv.OBJECT_TABLE_OFFSET = .ok es ∧
      ∀ e ∈ es, e.allocated ≠ 0 →
        (e.typ = HyperV.otKeyTable → HyperV.bfield (f.read e.offset e.size) Extracted.hyperv.HyperVStorageKeyTable.signature
          = Extracted.hyperv.SIGNATURE_KEY_TABLE_HEADER) ∧
        (e.typ = HyperV.otReplayLog → f.field e.offset HyperV.LOG Extracted.hyperv.HyperVStorageReplayLog.signature
          = .ok Extracted.hyperv.SIGNATURE_REPLAY_LOG_HEADER) := by
  obtain ⟨r, hl⟩ := hyperv_asDict_load f t h
  obtain ⟨h1, h2, es, e1, e2, hs, hv, hlog, hot, hw⟩ := HyperV.load_ok hl
  refine ⟨h1, h2, es, e1, e2, hs, ?_, hyperv_log_ok f _ hlog, hyperv_object_table_ok f _ es hot, hot, ?_⟩
  · obtain ⟨_storage, _log, _objTable, _keyTable, hversion, _⟩ := hyperv_gate_constants
    exact hv.trans hversion
  · exact hyperv_walk_ok f _ _ r hw es (by simp)

theorem hyperv_header_signature_gate (f : File) (r : HyperV.Reg) (h : HyperV.load f = .ok r) :
    ∃ h1 h2, HyperV.parseHeader f Extracted.hyperv.FIRST_HEADER_OFFSET = .ok h1 ∧
      HyperV.parseHeader f Extracted.hyperv.SECOND_HEADER_OFFSET = .ok h2 ∧
      (HyperV.chooseHeader h1 h2).signature = Extracted.hyperv.SIGNATURE_STORAGE_HEADER := by
  obtain ⟨h1, h2, _, e1, e2, hs, _⟩ := HyperV.load_ok h
  exact ⟨h1, h2, e1, e2, hs⟩

theorem hyperv_version_gate (f : File) (r : HyperV.Reg) (h : HyperV.load f = .ok r) :
    ∃ h1 h2, HyperV.parseHeader f Extracted.hyperv.FIRST_HEADER_OFFSET = .ok h1 ∧
      HyperV.parseHeader f Extracted.hyperv.SECOND_HEADER_OFFSET = .ok h2 ∧
      (HyperV.chooseHeader h1 h2).version = 0x400 := by
  obtain ⟨h1, h2, _, e1, e2, _, hv, _⟩ := HyperV.load_ok h
  obtain ⟨_storage, _log, _objTable, _keyTable, hversion, _⟩ := hyperv_gate_constants
  exact ⟨h1, h2, e1, e2, hv.trans hversion⟩

/-- every replay log that is instantiated (the header's, or one named by an object-table entry) -/
theorem hyperv_log_signature_gate (f : File) (off : Nat) (h : HyperV.checkReplayLog f off = .ok ()) :
    f.field off HyperV.LOG Extracted.hyperv.HyperVStorageReplayLog.signature
      = .ok Extracted.hyperv.SIGNATURE_REPLAY_LOG_HEADER := hyperv_log_ok f off h

/-- every object table that is instantiated (the one at 0x2000, or one named by an object-table entry) -/
theorem hyperv_object_table_signature_gate (f : File) (off : Nat) (es : List HyperV.ObjEntry)
    (h : HyperV.loadObjectTable f off = .ok es) :
    f.field off HyperV.OTH Extracted.hyperv.HyperVStorageObjectTable.signature
      = .ok Extracted.hyperv.SIGNATURE_OBJECT_TABLE_HEADER := hyperv_object_table_ok f off es h

/-- every key table that is instantiated -/
theorem hyperv_key_table_signature_gate (raw : Bytes) (size : Nat) (t : HyperV.KeyTable)
    (h : HyperV.parseKeyTable raw size = .ok t) :
    HyperV.bfield raw Extracted.hyperv.HyperVStorageKeyTable.signature = Extracted.hyperv.SIGNATURE_KEY_TABLE_HEADER :=
  hyperv_key_table_ok raw size t h

/-- inside the object-table walk, at any depth: the loop body for an allocated entry succeeds only if the entry's
    key table / replay log / not yet loaded object table carries its signature -/
theorem hyperv_entry_gates (f : File) (e : HyperV.ObjEntry) (w w' : HyperV.Walk) (h : HyperV.stepEntry f e w = .ok w')
    (ha : e.allocated ≠ 0) :
    (e.typ = HyperV.otKeyTable → HyperV.bfield (f.read e.offset e.size) Extracted.hyperv.HyperVStorageKeyTable.signature
      = Extracted.hyperv.SIGNATURE_KEY_TABLE_HEADER) ∧
    (e.typ = HyperV.otReplayLog → f.field e.offset HyperV.LOG Extracted.hyperv.HyperVStorageReplayLog.signature
      = .ok Extracted.hyperv.SIGNATURE_REPLAY_LOG_HEADER) ∧
    (e.typ = HyperV.otObjectTable → ¬ w.visited.contains e.offset →
      f.field e.offset HyperV.OTH Extracted.hyperv.HyperVStorageObjectTable.signature
        = .ok Extracted.hyperv.SIGNATURE_OBJECT_TABLE_HEADER) := by
  obtain ⟨⟨hk, hl⟩, ho⟩ := (hyperv_stepEntry_ok f e w w' h).1 ha
  exact ⟨hk, hl, ho⟩

/-- gate before content: when `__init__` refuses, no tree, no typed walk and no linked file exist -/
theorem hyperv_gate_before_content (f : File) (x : Err) (h : HyperV.load f = .error x) :
    HyperV.openFile f = .error x ∧ HyperV.asDict f = .error x ∧ HyperV.typedTree f = .error x :=
  hyperv_load_error f x h

/-! ## ESXi envelope and keystore (`Envelope.__init__`, `Envelope.decrypt`, `KeyStore.__init__`) -/

theorem envelope_magic_gate (file : Bytes) (env : Envelope.Env) (h : Envelope.openEnv file = .ok env) :
    Envelope.sub (file.take Envelope.BLOCK) Envelope.magicPos.1 Envelope.magicPos.2 = Envelope.FILE_MAGIC :=
  (envelope_open_ok file env h).1

theorem envelope_version_gate (file : Bytes) (env : Envelope.Env) (h : Envelope.openEnv file = .ok env) :
    Envelope.verF.decode (Envelope.sub (file.take Envelope.BLOCK) Envelope.verF.off Envelope.verF.width) = 2 := by
  rw [(envelope_open_ok file env h).2.1]
  exact Envelope.ENV_VERSION_eq

/-- the three required attributes are present in what `_read_envelope_attributes` returned -/
theorem envelope_required_attributes_gate (file : Bytes) (env : Envelope.Env) (h : Envelope.openEnv file = .ok env) :
    Envelope.readAttrs ((file.take Envelope.BLOCK).drop Envelope.HDR) = .ok env.attrs ∧
    (Envelope.getAttr env.attrs Envelope.nmKeyInfo).isSome ∧ (Envelope.getAttr env.attrs Envelope.nmCipher).isSome ∧
    (Envelope.getAttr env.attrs Envelope.nmKeyHash).isSome := by
  obtain ⟨_, _, attrs, ha, hreq, _, _, _, he, _⟩ := envelope_open_ok file env h
  rw [he]
  exact ⟨ha, hreq _ (by simp [Envelope.REQUIRED]), hreq _ (by simp [Envelope.REQUIRED]), hreq _ (by simp [Envelope.REQUIRED])⟩

/-- the cipher name is the string "AES-256-GCM" (a Bytes attribute with the same bytes is refused too) -/
theorem envelope_cipher_gate (file : Bytes) (env : Envelope.Env) (h : Envelope.openEnv file = .ok env) :
    ∃ ci, Envelope.getAttr env.attrs Envelope.nmCipher = some ci ∧ ci.val = .str "AES-256-GCM".toUTF8.toList ∧
      env.cipherName = "AES-256-GCM".toUTF8.toList := by
  obtain ⟨_, _, attrs, _, _, ⟨ci, hci, hv⟩, _, _, he, hn⟩ := envelope_open_ok file env h
  obtain ⟨_int2, _int1, _strs, _utf8, _envVersion, _aeadVersion, _frameBlocks, _keyInfo, _cipherName, _keyHash, _iv, hc⟩ :=
    C16.init_literals_spec
  exact ⟨ci, by rw [he]; exact hci, by rw [hv, hc], by rw [hn, hc]⟩

/-- the AEAD footer (the last block of the file) has version 1 -/
theorem envelope_footer_version_gate (file : Bytes) (env : Envelope.Env) (h : Envelope.openEnv file = .ok env) :
    Envelope.AEAD_SIZE ≤ file.length ∧
    Envelope.aeadVerF.decode (Envelope.sub (file.drop (file.length - Envelope.BLOCK)) Envelope.aeadVerF.off
      Envelope.aeadVerF.width) = 1 := by
  obtain ⟨_, _, attrs, _, _, _, hl, hv, _, _⟩ := envelope_open_ok file env h
  exact ⟨hl, hv.trans Envelope.AEAD_VERSION_eq⟩

/-- `Envelope.decrypt`: key-hash gate, cipher-name gate (again), IV present — before any AES call -/
theorem envelope_decrypt_gates (c : Envelope.Crypto) (e : Envelope.Env) (verify : Bool) (key aad out : Bytes)
    (h : Envelope.decrypt c e verify key aad = .ok out) :
    Envelope.Val.bytes (c.sha256 (e.cipherName ++ key)) = e.keyHash ∧ e.cipherName = "AES-256-GCM".toUTF8.toList ∧
    (Envelope.ivOf e).isSome := by
  obtain ⟨hk, hc, iv, hiv, _⟩ := Envelope.decrypt_ok h
  obtain ⟨_int512, _int4096, _str, _tail, _strip, hgcm⟩ := C16.decrypt_literals_spec
  exact ⟨hk, hc.trans hgcm, by rw [hiv]; rfl⟩

/-- gate before content: an envelope refused at open is never decrypted — the tool returns that error, derives no
    key and makes no crypto call -/
theorem envelope_gate_before_content (c : Envelope.Crypto) (file : Bytes) (ks : Envelope.Str) (x : Err)
    (h : Envelope.openEnv file = .error x) :
    Envelope.cli c file ks = .error x ∧ Envelope.cliCalls c file ks = [] := by
  unfold Envelope.cli Envelope.cliCalls
  rw [h]
  exact ⟨rfl, rfl⟩

/-- keystore mode: only `mode = "NONE"` (exactly; "none", "TPM", empty or absent are refused) -/
theorem keystore_mode_gate (c : Envelope.Crypto) (text : Envelope.Str) (r : Bytes × Bytes)
    (h : Envelope.keystore c text = .ok r) :
    ∃ store, Envelope.parseStore text = .ok store ∧
      Envelope.dictGet store "mode".toList = some (.str "NONE".toList) := by
  obtain ⟨store, s, hp, hs, _⟩ := C16.keystore_deterministic c text r.1 r.2 h
  have hm := keystore_stored_ok store s hs
  obtain ⟨_int, _strs, _sepStrs, _rounds, hmode, hnone, _⟩ := C16.keystore_literals_spec
  rw [hmode, hnone] at hm
  exact ⟨store, hp, hm⟩

/-- a refused keystore costs no key derivation -/
theorem keystore_gate_before_content (c : Envelope.Crypto) (text : Envelope.Str) (x : Err)
    (h : Envelope.keystore c text = .error x) : Envelope.keystoreCalls text = [] := by
  unfold Envelope.keystore at h
  unfold Envelope.keystoreCalls
  cases hp : Envelope.parseStore text with
  | error e => rfl
  | ok store =>
    rw [hp] at h
    simp only at h ⊢
    cases hs : Envelope.storedOf store with
    | error e => rfl
    | ok s => rw [hs] at h; cases h

example (c : Envelope.Crypto) : Envelope.keystore c "mode = \"TPM\"".toList = .error .other := by
  rw [String.toList_ofList]; rfl
example (c : Envelope.Crypto) : Envelope.keystore c "mode = \"none\"".toList = .error .other := by
  rw [String.toList_ofList]; rfl
example (c : Envelope.Crypto) : Envelope.keystore c "Mode = \"NONE\"".toList = .error .value := by
  rw [String.toList_ofList]; rfl

/-! ## encrypted-VMX key safe (`KeySafe.from_text`, `_parse_key_locator`, `Phrase.unwrap`, `_decrypt_hmac`) -/

/-- key-safe identifier: the text before the first `/` is `vmware:key` -/
theorem keysafe_identifier_gate (c : Vmx.Crypto) (text : Bytes) (locs : List Vmx.Loc) (h : Vmx.fromText c text = .ok locs) :
    (Vmx.partition 47 text).1 = Vmx.asc "vmware:key" := by
  have h1 := (keysafe_fromText_ok c text locs h).1
  rw [Vmx.sepSafe_eq, identKeySafe_eq] at h1
  exact h1

/-- the locator behind the identifier is a `list` -/
theorem keysafe_list_gate (c : Vmx.Crypto) (text : Bytes) (locs : List Vmx.Loc) (h : Vmx.fromText c text = .ok locs) :
    (Vmx.partition 47 (Vmx.partition 47 text).2).1 = Vmx.asc "list" := by
  have h1 := (keysafe_fromText_ok c text locs h).2
  rw [Vmx.sepSafe_eq, Vmx.sepLoc_eq, identList_eq] at h1
  exact h1

/-- locator kinds, at every nesting level: `list`, `pair`, `phrase` — and nothing else -/
theorem keysafe_locator_kind_gate (c : Vmx.Crypto) (fuel : Nat) (s : Bytes) (l : Vmx.Loc)
    (h : Vmx.parseLocator c (fuel + 1) s = .ok l) :
    (Vmx.partition 47 s).1 = Vmx.asc "list" ∨ (Vmx.partition 47 s).1 = Vmx.asc "pair" ∨
    (Vmx.partition 47 s).1 = Vmx.asc "phrase" := by
  have hk := keysafe_locator_ok c fuel s l h
  rw [Vmx.sepLoc_eq, identList_eq, identPair_eq, identPhrase_eq] at hk
  exact hk.imp And.left (Or.imp And.left And.left)

/-- `rawkey`, `ldap`, `script`, `role`, `fqid` … : NotImplementedError -/
theorem keysafe_unknown_locator_refused (c : Vmx.Crypto) (fuel : Nat) (s : Bytes)
    (h1 : (Vmx.partition 47 s).1 ≠ Vmx.asc "list") (h2 : (Vmx.partition 47 s).1 ≠ Vmx.asc "pair")
    (h3 : (Vmx.partition 47 s).1 ≠ Vmx.asc "phrase") : Vmx.parseLocator c (fuel + 1) s = .error .other := by
  have hu := keysafe_locator_unknown c fuel s
  rw [Vmx.sepLoc_eq, identList_eq, identPair_eq, identPhrase_eq] at hu
  exact hu h1 h2 h3

/-- a `list` that mixes supported members with one of an unknown kind is refused as a whole: the list branch parses every
    member and has no way to skip one (whatever the position of the member and whatever the other members are) -/
theorem keysafe_mixed_list_refused (c : Vmx.Crypto) (fuel : Nat) (s : Bytes) (ms : List Bytes) (m : Bytes)
    (hl : (Vmx.partition 47 s).1 = Vmx.asc "list") (hs : Vmx.splitList (Vmx.partition 47 s).2 = .ok ms) (hm : m ∈ ms)
    (h1 : (Vmx.partition 47 m).1 ≠ Vmx.asc "list") (h2 : (Vmx.partition 47 m).1 ≠ Vmx.asc "pair")
    (h3 : (Vmx.partition 47 m).1 ≠ Vmx.asc "phrase") : ∀ l, Vmx.parseLocator c (fuel + 1) s ≠ .ok l := by
  intro l h
  have hk := keysafe_list_members_ok c fuel s l
  rw [Vmx.sepLoc_eq, identList_eq] at hk
  obtain ⟨ms', hs', hall⟩ := hk hl h
  rw [hs] at hs'
  cases hs'
  obtain ⟨lm, hlm⟩ := hall m hm
  cases fuel with
  | zero => unfold Vmx.parseLocator at hlm; cases hlm
  | succ f => rw [keysafe_unknown_locator_refused c f m h1 h2 h3] at hlm; cases hlm

/-- a key safe with such a member is refused as well: `KeySafe.from_text` of `vmware:key/list/(…)` raises -/
theorem keysafe_mixed_safe_refused (c : Vmx.Crypto) (text : Bytes) (ms : List Bytes) (m : Bytes)
    (hl : (Vmx.partition 47 (Vmx.partition 47 text).2).1 = Vmx.asc "list")
    (hs : Vmx.splitList (Vmx.partition 47 (Vmx.partition 47 text).2).2 = .ok ms) (hm : m ∈ ms)
    (h1 : (Vmx.partition 47 m).1 ≠ Vmx.asc "list") (h2 : (Vmx.partition 47 m).1 ≠ Vmx.asc "pair")
    (h3 : (Vmx.partition 47 m).1 ≠ Vmx.asc "phrase") : ∀ locs, Vmx.fromText c text ≠ .ok locs := by
  intro locs h
  unfold Vmx.fromText at h
  split at h
  · cases h
  · obtain ⟨l, hp, _⟩ := bind_ok h
    rw [Vmx.sepSafe_eq] at hp
    exact keysafe_mixed_list_refused c _ _ ms m hl hs hm h1 h2 h3 l hp

/-- cipher / MAC / KDF names are table lookups: a pair that unlocks named a KDF in `PASS2KEY_MAP`, a cipher in
    `CIPHER_KEY_SIZES` and a MAC in `HMAC_MAP` -/
theorem vmx_cipher_mac_kdf_tables_gate (c : Vmx.Crypto) (p : Vmx.Phrase) (mac data pw k : Bytes)
    (h : Vmx.unlockPair c p mac data pw = .ok k) :
    (p.pass2key = Vmx.asc "PBKDF2-HMAC-SHA-1" ∨ p.pass2key = Vmx.asc "PBKDF2-HMAC-SHA-256") ∧
    (p.cipher = Vmx.asc "AES-256" ∨ p.cipher = Vmx.asc "AES-192" ∨ p.cipher = Vmx.asc "AES-128") ∧
    (mac = Vmx.asc "HMAC-SHA-1" ∨ mac = Vmx.asc "HMAC-SHA-1-128" ∨ mac = Vmx.asc "HMAC-SHA-256") := by
  unfold Vmx.unlockPair at h
  obtain ⟨key, hk, h⟩ := bind_ok h
  obtain ⟨d, hd, _⟩ := bind_ok h
  obtain ⟨alg, n, _, _, hm, _⟩ := Vmx.decryptHmac_ok hd
  -- an unknown KDF or cipher name would have made `unwrap` raise
  have hn : ¬ (Vmx.pass2keyHash p.pass2key = none ∨ Vmx.cipherKeySize p.cipher = none) := fun hn => by
    rw [vmx_unwrap_unknown c p pw hn] at hk
    cases hk
  exact ⟨(vmx_known_names _).1.mp (Option.isSome_iff_ne_none.mpr fun e => hn (.inl e)),
    (vmx_known_names _).2.1.mp (Option.isSome_iff_ne_none.mpr fun e => hn (.inr e)),
    (vmx_known_names _).2.2.mp (by rw [hm]; rfl)⟩

/-- the same at the level of the whole key safe: the pair that unsealed it used known names -/
theorem vmx_unseal_tables_gate (c : Vmx.Crypto) (pw : Bytes) (locs : List Vmx.Loc) (k mac : Bytes)
    (h : Vmx.unsealWithPhrase c pw locs = .ok (k, mac)) :
    ∃ p data, Vmx.Loc.pair (.phrase p) mac data ∈ locs ∧
      (p.pass2key = Vmx.asc "PBKDF2-HMAC-SHA-1" ∨ p.pass2key = Vmx.asc "PBKDF2-HMAC-SHA-256") ∧
      (p.cipher = Vmx.asc "AES-256" ∨ p.cipher = Vmx.asc "AES-192" ∨ p.cipher = Vmx.asc "AES-128") ∧
      (mac = Vmx.asc "HMAC-SHA-1" ∨ mac = Vmx.asc "HMAC-SHA-1-128" ∨ mac = Vmx.asc "HMAC-SHA-256") := by
  obtain ⟨p, data, hm, hu⟩ := Vmx.unseal_ok h
  exact ⟨p, data, hm, vmx_cipher_mac_kdf_tables_gate c p mac data pw k hu⟩

/-- an unknown KDF or cipher name is a `KeyError`, which `unseal_with_phrase` does not swallow: the unseal aborts
    at that pair instead of moving on to the next locator -/
theorem vmx_unknown_kdf_cipher_refused (c : Vmx.Crypto) (p : Vmx.Phrase) (mac data pw : Bytes) (rest : List Vmx.Loc)
    (h : Vmx.pass2keyHash p.pass2key = none ∨ Vmx.cipherKeySize p.cipher = none) :
    Vmx.unsealWithPhrase c pw (.pair (.phrase p) mac data :: rest) = .error .other := by
  have hu : Vmx.unlockPair c p mac data pw = .error .other := by
    unfold Vmx.unlockPair
    rw [vmx_unwrap_unknown c p pw h]
    rfl
  unfold Vmx.unsealWithPhrase
  rw [hu]

/-- an unknown MAC name (looked up after the key derivation) aborts the unseal in the same way -/
theorem vmx_unknown_mac_refused (c : Vmx.Crypto) (p : Vmx.Phrase) (mac data pw key : Bytes) (rest : List Vmx.Loc)
    (hk : Vmx.unwrap c p pw = .ok key) (h : Vmx.hmacInfo mac = none) :
    Vmx.unsealWithPhrase c pw (.pair (.phrase p) mac data :: rest) = .error .other := by
  have hu : Vmx.unlockPair c p mac data pw = .error .other := by
    unfold Vmx.unlockPair
    rw [hk]
    simp only [bind, Except.bind]
    rw [vmx_decryptHmac_unknown c key data mac h]
  unfold Vmx.unsealWithPhrase
  rw [hu]

/-- `VMX.unlock_with_phrase`: accepted ⇒ identifier, list, unsealed through known names, known MAC for
    `encryption.data` -/
theorem vmx_unlock_gates (c : Vmx.Crypto) (attr : Vmx.Attr) (pw : Bytes) (new : Vmx.Attr)
    (h : Vmx.unlockCore c attr pw = .ok new) :
    ∃ ks locs k mac, Vmx.attrGet attr Vmx.kKeySafe = some ks ∧ Vmx.fromText c ks = .ok locs ∧
      (Vmx.partition 47 ks).1 = Vmx.asc "vmware:key" ∧ (Vmx.partition 47 (Vmx.partition 47 ks).2).1 = Vmx.asc "list" ∧
      Vmx.unsealWithPhrase c pw locs = .ok (k, mac) ∧
      (mac = Vmx.asc "HMAC-SHA-1" ∨ mac = Vmx.asc "HMAC-SHA-1-128" ∨ mac = Vmx.asc "HMAC-SHA-256") := by
  unfold Vmx.unlockCore at h
  split at h
  · cases h
  split at h
  · cases h
  rename_i ks hks
  obtain ⟨locs, hl, h⟩ := bind_ok h
  obtain ⟨km, hu, h⟩ := bind_ok h
  split at h
  · cases h
  obtain ⟨enc, _, h⟩ := bind_ok h
  obtain ⟨dec, hd, _⟩ := bind_ok h
  obtain ⟨alg, n, _, _, hm, _⟩ := Vmx.decryptHmac_ok hd
  exact ⟨ks, locs, km.1, km.2, hks, hl, keysafe_identifier_gate c ks locs hl, keysafe_list_gate c ks locs hl, hu,
    (vmx_known_names _).2.2.mp (by rw [hm]; rfl)⟩

/-- gate before content: a refused unlock leaves `self.attr` exactly as it was -/
theorem vmx_gate_before_content (c : Vmx.Crypto) (attr : Vmx.Attr) (pw : Bytes) (e : Vmx.VErr)
    (h : Vmx.unlockCore c attr pw = .error e) : Vmx.unlock c attr pw = (.error e, attr) := by
  unfold Vmx.unlock
  rw [h]

example (c : Vmx.Crypto) : Vmx.fromText c (Vmx.asc "vmware:kez/list/(x)") = .error .value := by
  rw [Vmx.asc_ofList]; rfl
example (c : Vmx.Crypto) : Vmx.fromText c (Vmx.asc "vmware:key/ldap/(x)") = .error .other := by
  rw [Vmx.asc_ofList]; rfl
example (c : Vmx.Crypto) : Vmx.fromText c (Vmx.asc "vmware:key/list/(rawkey/abc)") = .error .other := by
  rw [Vmx.asc_ofList]; rfl

/-! ## vmtar member headers -/

/-- a 512-byte block is taken for a member header only if it is exactly one block, not all zero, its checksum
    field equals the unsigned or the signed sum of the block, and — for `VisorTarInfo` — its size is not negative -/
theorem vmtar_header_gates (aware : Bool) (buf : Bytes) (hd : Vmtar.Hdr) (h : Vmtar.frombuf aware buf = .ok hd) :
    buf.length = 512 ∧ buf.all (· = 0) = false ∧
    (∃ chk, Vmtar.nti (Vmtar.sub buf 148 156) = .ok chk ∧ (chk = (Vmtar.chksums buf).1 ∨ chk = (Vmtar.chksums buf).2)) ∧
    (aware = true → 0 ≤ hd.size) := by
  obtain ⟨hlen, hz, b, hb, hs, rfl⟩ := Vmtar.frombuf_ok h
  exact ⟨hlen, hz, vmtar_tarFields_ok buf b hb, hs⟩

/-! ## VHD: no gate to prove

`dissect/hypervisor/disk/vhd.py` checks neither the `conectix` footer cookie nor the `cxsparse` cookie of the dynamic
header, nor a checksum, version or disk type: the model (`Vhd.open`), faithful to the code, has no refusing branch
except short reads.  A file of 1024 bytes 0xFF is "a fixed VHD of 2^64 − 1 bytes" for both (observation O1 in DESIGN.md §0.4). -/
example : ∃ v, Vhd.open ⟨1024, fun _ => 0xFF⟩ = .ok v ∧ v.kind = .fixed ∧ v.size = 2 ^ 64 - 1 := by
  refine ⟨_, rfl, rfl, ?_⟩
  decide

end Hv.C12
