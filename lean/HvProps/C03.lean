/-
  C03 — VHDX: every byte range reads as the guest-visible content.
-/
import HvProofs.Vhdx
namespace Hv.C03
open Hv Hv.Vhdx

/-! extracted values = [MS-VHDX] -/
theorem states_spec :
    Extracted.vhdx.PAYLOAD_BLOCK_NOT_PRESENT = 0 ∧ Extracted.vhdx.PAYLOAD_BLOCK_UNDEFINED = 1 ∧
    Extracted.vhdx.PAYLOAD_BLOCK_ZERO = 2 ∧ Extracted.vhdx.PAYLOAD_BLOCK_UNMAPPED = 3 ∧
    Extracted.vhdx.PAYLOAD_BLOCK_FULLY_PRESENT = 6 ∧ Extracted.vhdx.PAYLOAD_BLOCK_PARTIALLY_PRESENT = 7 := by decide
theorem geometry_spec : Extracted.vhdx.ALIGNMENT = 64 * 1024 ∧ Extracted.vhdx.MB = 2 ^ 20 := by decide
theorem bat_entry_layout_spec :
    Extracted.vhdx.bat_entry.size = 8 ∧
    Extracted.vhdx.bat_entry.state = ⟨0, 1, false, 0, 3⟩ ∧
    Extracted.vhdx.bat_entry.file_offset_mb = ⟨0, 8, false, 20, 44⟩ := by decide
theorem region_layout_spec :
    Extracted.vhdx.region_table_header.size = 16 ∧ Extracted.vhdx.region_table_header.entry_count = ⟨8, 4, false, 0, 32⟩ ∧
    Extracted.vhdx.region_table_entry.size = 32 ∧ Extracted.vhdx.region_table_entry.guid = (0, 16) ∧
    Extracted.vhdx.region_table_entry.file_offset = ⟨16, 8, false, 0, 64⟩ := by decide
theorem metadata_layout_spec :
    Extracted.vhdx.metadata_table_header.size = 32 ∧ Extracted.vhdx.metadata_table_header.entry_count = ⟨10, 2, false, 0, 16⟩ ∧
    Extracted.vhdx.metadata_table_entry.size = 32 ∧ Extracted.vhdx.metadata_table_entry.item_id = (0, 16) ∧
    Extracted.vhdx.metadata_table_entry.offset = ⟨16, 4, false, 0, 32⟩ ∧
    Extracted.vhdx.metadata_table_entry.is_required = ⟨24, 1, false, 2, 1⟩ ∧
    Extracted.vhdx.file_parameters.block_size = ⟨0, 4, false, 0, 32⟩ ∧
    Extracted.vhdx.file_parameters.has_parent = ⟨4, 1, false, 1, 1⟩ := by decide
/-- GUIDs in their on-disk (mixed-endian) byte order -/
theorem guid_spec :
    Extracted.vhdx.BAT_REGION_GUID = [0x66, 0x77, 0xC2, 0x2D, 0x23, 0xF6, 0x00, 0x42, 0x9D, 0x64, 0x11, 0x5E, 0x9B, 0xFD, 0x4A, 0x08] ∧
    Extracted.vhdx.METADATA_REGION_GUID = [0x06, 0xA2, 0x7C, 0x8B, 0x90, 0x47, 0x9A, 0x4B, 0xB8, 0xFE, 0x57, 0x5F, 0x05, 0x0F, 0x88, 0x6E] ∧
    Extracted.vhdx.FILE_PARAMETERS_GUID = [0x37, 0x67, 0xA1, 0xCA, 0x36, 0xFA, 0x43, 0x4D, 0xB3, 0xB6, 0x33, 0xF0, 0xAA, 0x44, 0xE7, 0x6B] ∧
    Extracted.vhdx.VIRTUAL_DISK_SIZE_GUID = [0x24, 0x42, 0xA5, 0x2F, 0x1B, 0xCD, 0x76, 0x48, 0xB2, 0x11, 0x5D, 0xBE, 0xD8, 0x3B, 0xF4, 0xB8] ∧
    Extracted.vhdx.LOGICAL_SECTOR_SIZE_GUID = [0x1D, 0xBF, 0x41, 0x81, 0x6F, 0xA9, 0x09, 0x47, 0xBA, 0x47, 0xF2, 0x33, 0xA8, 0xFA, 0xAB, 0x5F] := by
  decide +kernel

/-- **bat_index_matches_layout**: for every chunk ratio ≥ 1, payload block `b` is BAT entry
    number `(b / r)·(r+1) + b % r` and its sector-bitmap entry is `(b / r)·(r+1) + r`. -/
theorem bat_index_matches_layout (v : Vhdx) (hr : 0 < v.chunkRatio) (b : Nat) :
    v.pbIndex b / (v.chunkRatio + 1) = b / v.chunkRatio ∧
    v.pbIndex b % (v.chunkRatio + 1) = b % v.chunkRatio ∧
    v.sbIndex b / (v.chunkRatio + 1) = b / v.chunkRatio ∧
    v.sbIndex b % (v.chunkRatio + 1) = v.chunkRatio := by
  unfold Vhdx.pbIndex Vhdx.sbIndex
  have hm := Nat.mod_lt b hr
  have hd := Nat.div_add_mod b v.chunkRatio
  generalize b / v.chunkRatio = q at *
  generalize b % v.chunkRatio = m at *
  have e1 : b + q = (v.chunkRatio + 1) * q + m := by rw [Nat.add_mul, Nat.one_mul]; omega
  have e2 : (q + 1) * v.chunkRatio + q = (v.chunkRatio + 1) * q + v.chunkRatio := by
    rw [Nat.add_mul, Nat.add_mul, Nat.one_mul, Nat.one_mul, Nat.mul_comm]; omega
  rw [e1, e2]
  have hpos := Nat.succ_pos v.chunkRatio
  rw [Nat.mul_add_div hpos, Nat.mul_add_mod, Nat.mul_add_div hpos, Nat.mul_add_mod,
    Nat.div_eq_of_lt (Nat.lt_succ_of_lt hm), Nat.mod_eq_of_lt (Nat.lt_succ_of_lt hm),
    Nat.div_eq_of_lt (Nat.lt_succ_self _), Nat.mod_eq_of_lt (Nat.lt_succ_self _)]
  exact ⟨rfl, rfl, rfl, rfl⟩

/-- **chunk_ratio_cases**: for both logical sector sizes and every block size the format
    allows (1 MiB … 256 MiB, powers of two) the chunk ratio is a positive integer. -/
theorem chunk_ratio_cases :
    ∀ ss ∈ [512, 4096], ∀ k ∈ [0, 1, 2, 3, 4, 5, 6, 7, 8],
      0 < (2 ^ 23 * ss) / (2 ^ k * 2 ^ 20) ∧ (2 ^ 23 * ss) % (2 ^ k * 2 ^ 20) = 0 := by decide +kernel

/-- **vhdx_read_correct**: at every sector-aligned offset `_read` succeeds, its first
    `min len (size-off)` bytes are the guest bytes, and sector-multiple in-range requests are
    exact — for every block size, sector size, BAT contents and block placement, requests
    starting anywhere in a block and spanning any number of blocks. -/
theorem vhdx_read_correct (v : Vhdx) (hwf : WF v) (off len : Nat) (ho : off % v.sectorSize = 0) :
    ∃ b, v.read off len = .ok b ∧
      b.take (min len (v.size - off)) = slice v.guest off (min len (v.size - off)) ∧
      (len % v.sectorSize = 0 → off + len ≤ v.size → b = slice v.guest off len) :=
  (read_covers v hwf off len ho).prefix

/-- sector-addressed interface: `read_sectors(s, c)` is the slice `[s·ss, (s+c)·ss)` -/
theorem vhdx_read_sectors_correct (v : Vhdx) (hwf : WF v) (sector count : Nat)
    (h : sector + count ≤ pbCount v * v.spb) :
    v.readSectors count sector count = .ok (slice v.guest (sector * v.sectorSize) (count * v.sectorSize)) :=
  readSectors_correct v hwf count sector count (Nat.le_refl _) h

theorem vhdx_backendOK (v : Vhdx) (hwf : WF v) (align : Nat) (ha : align % v.sectorSize = 0) :
    BackendOK v.size align v.read v.guest :=
  backendOK_of_covers ha (read_covers v hwf)

theorem vhdx_stream_correct (v : Vhdx) (hwf : WF v) (align : Nat) (ha : align % v.sectorSize = 0)
    (hpos : 0 < align) (ops : List Op) :
    AS.run v.read (AS.init v.size align) ops = Spec.run v.guest ⟨v.size, 0⟩ ops :=
  AS.run_refines ops _ (AS.init_inv _ _ hpos) (vhdx_backendOK v hwf align ha)

theorem vhdx_wfb_sound (v : Vhdx) (h : v.wfb = true) : WF v := wfb_sound v h

/-- **vhdx_read_terminates** (C11 obligation), given that a single block's dispatch does -/
theorem vhdx_read_terminates (v : Vhdx)
    (hchunk : ∀ b s i n, v.chunk b s i n ≠ .error .nonTermination) (sector count : Nat) :
    v.readSectors count sector count ≠ .error .nonTermination :=
  readSectors_progress v hchunk count sector count (Nat.le_refl _)

end Hv.C03
