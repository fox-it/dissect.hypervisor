/-
  C14 — exposed image metadata and parent references equal what the file stores.
  Theorems about the metadata layer `Hv/Meta.lean` (which is built on the open / parse models of the read-path
  properties): the QCOW2 header-extension walk, the snapshot table, VMDK descriptor lines, the VHDX header choice
  and the parent locator dictionary. The correspondence harness (harness/c14.py) ties the layer to the real code.
-/
import HvProofs.Meta
import HvProofs.MetaEnc
namespace Hv.C14
open Hv Hv.Meta Hv.Qcow2 Hv.VmdkDesc

/-! ### extracted layouts / literals = specification values -/

/-- `offset += (ext.len + 7) & 0xFFFFFFF8` — the literals and operators of `_read_extensions` -/
theorem ext_padding_literals_spec : Extracted.qcow2.read_extensions_literals = [1, 7, 4294967288] ∧
    Extracted.c14.read_extensions_ops = ["Add", "BitAnd", "LShift", "Sub"] := by decide
/-- on every length the walk can reach (`len + 7 < 2^32`) that expression is "round up to a multiple of 8" -/
theorem ext_padding_spec (len : Nat) (h : len + 7 < 2 ^ 32) : (len + EXT_PAD) &&& EXT_MASK = align8 len := by
  show (len + 7) &&& 4294967288 = (len + 7) / 8 * 8
  exact and_mask8 _ h
/-- `offset += (entry_size + 7) & ~7` in `QCow2.snapshots` -/
theorem snapshot_padding_literals_spec : Extracted.c14.snapshots_literals = [1, 7, 7] ∧
    Extracted.c14.snapshots_ops = ["Add", "BitAnd", "Invert", "USub"] := by decide
theorem ext_header_layout_spec : Extracted.qcow2.QCowExtension.size = 8 ∧
    Extracted.qcow2.QCowExtension.magic = ⟨0, 4, true, 0, 32⟩ ∧ Extracted.qcow2.QCowExtension.len = ⟨4, 4, true, 0, 32⟩ := by decide
theorem ext_types_spec : Extracted.qcow2.QCOW2_EXT_MAGIC_END = 0 ∧ Extracted.qcow2.QCOW2_EXT_MAGIC_BACKING_FORMAT = 0xE2792ACA ∧
    Extracted.qcow2.QCOW2_EXT_MAGIC_FEATURE_TABLE = 0x6803F857 ∧ Extracted.qcow2.QCOW2_EXT_MAGIC_CRYPTO_HEADER = 0x0537BE77 ∧
    Extracted.qcow2.QCOW2_EXT_MAGIC_BITMAPS = 0x23852875 ∧ Extracted.qcow2.QCOW2_EXT_MAGIC_DATA_FILE = 0x44415441 := by decide
theorem snapshot_header_layout_spec : Extracted.qcow2.QCowSnapshotHeader.size = 40 ∧
    Extracted.qcow2.QCowSnapshotHeader.l1_table_offset = ⟨0, 8, true, 0, 64⟩ ∧ Extracted.qcow2.QCowSnapshotHeader.l1_size = ⟨8, 4, true, 0, 32⟩ ∧
    Extracted.qcow2.QCowSnapshotHeader.id_str_size = ⟨12, 2, true, 0, 16⟩ ∧ Extracted.qcow2.QCowSnapshotHeader.name_size = ⟨14, 2, true, 0, 16⟩ ∧
    Extracted.qcow2.QCowSnapshotHeader.date_sec = ⟨16, 4, true, 0, 32⟩ ∧ Extracted.qcow2.QCowSnapshotHeader.date_nsec = ⟨20, 4, true, 0, 32⟩ ∧
    Extracted.qcow2.QCowSnapshotHeader.vm_clock_nsec = ⟨24, 8, true, 0, 64⟩ ∧ Extracted.qcow2.QCowSnapshotHeader.vm_state_size = ⟨32, 4, true, 0, 32⟩ ∧
    Extracted.qcow2.QCowSnapshotHeader.extra_data_size = ⟨36, 4, true, 0, 32⟩ ∧ Extracted.qcow2.QCowSnapshotExtraData.size = 24 ∧
    Extracted.qcow2.QCowSnapshotExtraData.vm_state_size_large = ⟨0, 8, true, 0, 64⟩ ∧ Extracted.qcow2.QCowSnapshotExtraData.disk_size = ⟨8, 8, true, 0, 64⟩ ∧
    Extracted.qcow2.QCowSnapshotExtraData.icount = ⟨16, 8, true, 0, 64⟩ := by decide
/-- `DiskDescriptor.parse` splits a setting line with `partition("=")` (first '='), strips the key and strips `' "'` from the value -/
theorem descriptor_parse_spec : Extracted.c14.descriptor_split_methods = ["partition"] ∧
    Extracted.c14.descriptor_parse_strings = ["\n", "#", "RW ", "RDONLY ", "NOACCESS ", "=", " \"", "ddb."] := by decide
/-- `header1 if header1.sequence_number > header2.sequence_number else header2`; locator strings are UTF-16-LE -/
theorem vhdx_choice_spec : Extracted.c14.header_choice_ops = ["Gt"] ∧ Extracted.c14.parent_locator_strings = ["utf-16-le", "utf-16-le"] ∧
    Extracted.vhdx.header.sequence_number = ⟨8, 8, false, 0, 64⟩ ∧ Extracted.vhdx.ALIGNMENT = 65536 := by decide
theorem locator_layout_spec : Extracted.vhdx.parent_locator_header.size = 20 ∧ Extracted.vhdx.parent_locator_entry.size = 12 ∧
    Extracted.vhdx.parent_locator_header.key_value_count = ⟨18, 2, false, 0, 16⟩ ∧
    Extracted.vhdx.parent_locator_entry.key_offset = ⟨0, 4, false, 0, 32⟩ ∧ Extracted.vhdx.parent_locator_entry.value_offset = ⟨4, 4, false, 0, 32⟩ ∧
    Extracted.vhdx.parent_locator_entry.key_length = ⟨8, 2, false, 0, 16⟩ ∧ Extracted.vhdx.parent_locator_entry.value_length = ⟨10, 2, false, 0, 16⟩ := by decide

/-- **field_roundtrip_be / field_roundtrip_le**: every big-endian (QCOW2) / little-endian (VHDX, VMDK, VDI, HDS) integer field of the extracted layouts
    decodes exactly the value that was stored in its bytes, for every value of the field's range. -/
theorem field_roundtrip_be (off w v : Nat) (hv : v < 256 ^ w) (bits : Nat) (hb : 2 ^ bits = 256 ^ w) :
    (⟨off, w, true, 0, bits⟩ : Field).decode (beBytes w v) = v := decode_be off w bits v hb hv
theorem field_roundtrip_le (off w v : Nat) (hv : v < 256 ^ w) (bits : Nat) (hb : 2 ^ bits = 256 ^ w) :
    (⟨off, w, false, 0, bits⟩ : Field).decode (leBytes w v) = v := decode_le off w bits v hb hv
example : Extracted.qcow2.QCowSnapshotHeader.vm_clock_nsec.decode (beBytes 8 0xFFFFFFFFFFFFFFFF) = 0xFFFFFFFFFFFFFFFF :=
  field_roundtrip_be 24 8 _ (by decide) 64 (by decide)

/-- **ext_walk_roundtrip**: for *every* list of extensions — any number, any non-zero types (known or unknown), any payload
    lengths including 0 and multiples of 8, any payload bytes — if the header extension area of the file (from `start` =
    header_length) holds `encodeExts es` (each extension: type, length, payload, zero padding to the next multiple of 8; then the
    end marker) inside the area the reader scans (`endOff` = backing_file_offset or the cluster size), the walk of
    `QCow2._read_extensions`, with exactly the fuel `QCow2.open` gives it, returns exactly `es`: nothing skipped, nothing
    invented, every payload byte-exact. -/
theorem ext_walk_roundtrip (fh : File) (start endOff : Nat) (es : List Ext)
    (hok : ∀ e ∈ es, ExtOK e)
    (hbytes : slice fh.byte start (encodeExts es).length = encodeExts es)
    (hin : start + (encodeExts es).length ≤ endOff) (hsz : endOff ≤ fh.size) :
    readExtensions fh endOff (endOff / 8 + 2) start [] = .ok es := by
  have hlen := encodeExts_length_ge es (fun e he => (hok e he).2.2.1)
  have := readExtensions_encoded fh endOff es (endOff / 8 + 2) start [] hok (by omega) hbytes hin hsz
  simpa using this

/-- the offset of the extension after one with payload length `n` is the same whether or not `n` is already a multiple of 8:
    no spurious 8 bytes are skipped -/
theorem ext_padding_multiple_of_8 (n : Nat) (h : n % 8 = 0) : align8 n = n := by unfold align8; omega

/-- non-vacuity: five extensions (unknown type with a 16-byte payload first, a backing format, an empty one, a data-file name of
    12 bytes, a 3-byte one) written after a 104-byte header; the walk returns them all -/
def exExts : List Ext :=
  [⟨0x12345678, 16, (List.range 16).map UInt8.ofNat⟩, ⟨0xE2792ACA, 5, "qcow2".toUTF8.toList⟩, ⟨7, 0, []⟩,
   ⟨0x44415441, 12, "data file.ra".toUTF8.toList⟩, ⟨0xFFFFFFFF, 3, [1, 2, 3]⟩]
def exFile : File := fileOf (zeros 104 ++ encodeExts exExts ++ zeros 40)
example : (readExtensions exFile 200 (200 / 8 + 2) 104 []).map (fun l => l.map (fun e => (e.magic, e.len, e.data)))
    = .ok (exExts.map (fun e => (e.magic, e.len, e.data))) := by
  have hb : slice exFile.byte 104 (encodeExts exExts).length = encodeExts exExts := slice_fileOf (a := zeros 104) rfl
  rw [ext_walk_roundtrip exFile 104 200 exExts (by unfold ExtOK; decide +kernel) hb (by decide +kernel) (by decide +kernel)]
  rfl
example : (∀ e ∈ exExts, e.magic ≠ 0 ∧ e.len = e.data.length) ∧ 104 + (encodeExts exExts).length ≤ 200 := by decide +kernel

/-! The three theorems on the parsed table (`snapshot_table_offsets`, `snapshot_offsets_aligned`, `snapshot_entry_layout`) are
    proved here in full: each is a direct induction or unfolding of the model with no lemma of its own in `HvProofs`. -/

/-- **snapshot_table_offsets**: whatever the table contains, entry `i` of the parsed table was parsed at the offset obtained from
    `snapshots_offset` by adding the 8-byte aligned sizes of its predecessors (entries are 8-byte aligned), and the table has
    `nb_snapshots` entries. -/
theorem snapshot_table_offsets (fh : File) (n off : Nat) (ss : List SnapFull) (h : readSnapsFull fh n off = .ok ss) :
    ss.length = n ∧ ∀ i (hi : i < ss.length), readSnapFull fh (snapOffset off (ss.take i)) = .ok ss[i] := by
  induction n generalizing off ss with
  | zero =>
    simp only [readSnapsFull, Except.ok.injEq] at h
    subst h
    exact ⟨rfl, fun i hi => absurd hi (by simp)⟩
  | succ n ih =>
    simp only [readSnapsFull] at h
    split at h
    · cases h
    rename_i s hs
    split at h
    · cases h
    rename_i rest hr
    simp only [Except.ok.injEq] at h
    subst h
    obtain ⟨hl, hi⟩ := ih _ _ hr
    refine ⟨by simp [hl], ?_⟩
    intro i hlt
    cases i with
    | zero => simpa [snapOffset] using hs
    | succ j =>
      have := hi j (by simpa using hlt)
      simpa [snapOffset] using this

theorem snapshot_offsets_aligned (off : Nat) (ss : List SnapFull) (h : off % 8 = 0) : snapOffset off ss % 8 = 0 := by
  induction ss generalizing off with
  | nil => exact h
  | cons s ss ih =>
    have := align8_mod s.entrySize
    exact ih _ (by omega)

/-- **snapshot_entry_layout** (the byte-level half of `snapshot_table_roundtrip`; the numeric header
    fields are `Field.decode` of the extracted layout, pinned by `snapshot_header_layout_spec`): for every entry that lies inside
    the file — any extra-data size, id length, name length — the entry exposes exactly the stored bytes: the id is the
    `id_str_size` bytes after the extra data, the name the `name_size` bytes after the id, extra data beyond the 24 known bytes
    is exposed once as `unknown_extra`, and `entry_size = 40 + extra + id + name`. -/
theorem snapshot_entry_layout (fh : File) (offset : Nat)
    (hfit : offset + 40 + snapField fh offset Extracted.qcow2.QCowSnapshotHeader.extra_data_size
              + snapField fh offset Extracted.qcow2.QCowSnapshotHeader.id_str_size
              + snapField fh offset Extracted.qcow2.QCowSnapshotHeader.name_size ≤ fh.size) :
    ∃ s, readSnapFull fh offset = .ok s ∧
      s.l1Offset = snapField fh offset Extracted.qcow2.QCowSnapshotHeader.l1_table_offset ∧
      s.l1Size = snapField fh offset Extracted.qcow2.QCowSnapshotHeader.l1_size ∧
      s.extraSize = snapField fh offset Extracted.qcow2.QCowSnapshotHeader.extra_data_size ∧
      s.unknownExtra = (if s.extraSize > 24 then some (slice fh.byte (offset + 40 + 24) (s.extraSize - 24)) else none) ∧
      s.idStr = slice fh.byte (offset + 40 + s.extraSize) (snapField fh offset Extracted.qcow2.QCowSnapshotHeader.id_str_size) ∧
      s.name = slice fh.byte (offset + 40 + s.extraSize + s.idStr.length) (snapField fh offset Extracted.qcow2.QCowSnapshotHeader.name_size) ∧
      s.entrySize = 40 + s.extraSize + s.idStr.length + s.name.length := by
  have hz : Extracted.qcow2.QCowSnapshotHeader.size = 40 := rfl
  have h40 : offset + 40 ≤ fh.size := by omega
  unfold readSnapFull
  simp only [hz, h40, if_true]
  refine ⟨_, rfl, rfl, rfl, rfl, ?_⟩
  have hl := snapTail_layout fh (offset + 40) _ _ _ hfit
  simp only [snapField] at hl hfit ⊢
  rw [hl]
  refine ⟨rfl, rfl, ?_, ?_⟩
  · simp only [slice_length]
  · simp only [slice_length]; omega

/-- non-vacuity: a table of two entries (extra 16 / id "1" / name "a" — 58 bytes, padded to 64 — then extra 32 / id "22" /
    name "snap two") is parsed into both entries, the second one from offset 64 -/
def exSnapBytes : Bytes :=
  beBytes 8 0x30000 ++ beBytes 4 1 ++ beBytes 2 1 ++ beBytes 2 1 ++ beBytes 4 5 ++ beBytes 4 6 ++ beBytes 8 7 ++ beBytes 4 8 ++ beBytes 4 16 ++
    (beBytes 8 9 ++ beBytes 8 10) ++ [49] ++ [97] ++ zeros 6 ++
  beBytes 8 0x40000 ++ beBytes 4 2 ++ beBytes 2 2 ++ beBytes 2 8 ++ beBytes 4 0 ++ beBytes 4 0 ++ beBytes 8 0 ++ beBytes 4 0 ++ beBytes 4 32 ++
    (beBytes 8 1 ++ beBytes 8 2 ++ beBytes 8 3 ++ beBytes 8 0xAABB) ++ [50, 50] ++ "snap two".toUTF8.toList ++ zeros 6
def exSnapCheck : Bool :=
  match readSnapsFull (fileOf exSnapBytes) 2 0 with
  | .ok [a, b] =>
    a.l1Offset == 0x30000 && a.idStr == [49] && a.name == [97] && a.extraSize == 16 && a.vmStateLarge == 9 && a.diskSize == 10 &&
    a.icount == 0 && a.unknownExtra == none && a.entrySize == 58 &&
    b.l1Offset == 0x40000 && b.idStr == [50, 50] && b.name == "snap two".toUTF8.toList && b.extraSize == 32 && b.vmStateLarge == 1 &&
    b.diskSize == 2 && b.icount == 3 && b.unknownExtra == some (beBytes 8 0xAABB) && b.entrySize == 82
  | _ => false
example : exSnapCheck = true := by decide +kernel

/-- **snapshot_table_roundtrip**: for EVERY list of snapshot specs — any count; id and name byte strings of any length
    < 2^16 (also empty); extra data absent (0), the 16-byte form, the 24-byte form, or longer with a tail the reader does not
    know (`SnapExtra`); every numeric field anywhere in the range of its on-disk width (`SnapSpec.ok`, decidable) — if the
    file holds `encodeSnaps specs` at `off` (per entry: the 40-byte big-endian header, extra data, id, name, zero padding to
    the next multiple of 8 — entries 8-byte aligned as the format requires), then `QCow2.snapshots` (`readSnapsFull`, with
    `nb_snapshots = specs.length`) returns exactly the specs: all nine header fields, the three known extra fields (0 when
    absent), the unknown tail exposed once iff the extra data is longer than 24 bytes, id, name, `entry_size`; and the read
    path's own walk `Qcow2.readSnapshots` (the model function C01 uses) returns its projection of the same specs. -/
theorem snapshot_table_roundtrip (fh : File) (off : Nat) (specs : List SnapSpec) (hok : ∀ s ∈ specs, s.ok = true)
    (hbytes : slice fh.byte off (encodeSnaps specs).length = encodeSnaps specs)
    (hsz : off + (encodeSnaps specs).length ≤ fh.size) :
    readSnapsFull fh specs.length off = .ok (specs.map SnapSpec.expected) ∧
    readSnapshots fh specs.length off = .ok (specs.map SnapSpec.expectedQ) :=
  ⟨readSnapsFull_encoded fh specs off hok hbytes hsz, readSnapshots_encoded fh specs off hok hbytes hsz⟩

/-- every encoded entry occupies a multiple of 8 bytes (so with an aligned table start every entry is 8-byte aligned) and
    the padding is the minimal one -/
theorem snapshot_entry_padded (s : SnapSpec) :
    (encodeSnap s).length % 8 = 0 ∧ s.entrySize ≤ (encodeSnap s).length ∧ (encodeSnap s).length < s.entrySize + 8 := by
  rw [encodeSnap_length]; exact ⟨align8_mod _, align8_ge _, align8_lt _⟩

/-- non-vacuity: the two-entry table of the example above IS `encodeSnaps` of two specs (16-byte extra data; 32-byte extra
    data with an 8-byte unknown tail) that satisfy the hypotheses -/
def exSnapSpecs : List SnapSpec :=
  [ { l1Offset := 0x30000, l1Size := 1, dateSec := 5, dateNsec := 6, vmClock := 7, vmStateSize := 8,
      extra := .v16 9 10, idStr := [49], name := [97] },
    { l1Offset := 0x40000, l1Size := 2, dateSec := 0, dateNsec := 0, vmClock := 0, vmStateSize := 0,
      extra := .more 1 2 3 (beBytes 8 0xAABB), idStr := [50, 50], name := "snap two".toUTF8.toList } ]
example : encodeSnaps exSnapSpecs = exSnapBytes ∧ (∀ s ∈ exSnapSpecs, s.ok = true) := by decide +kernel
example : readSnapsFull (fileOf exSnapBytes) 2 0 = .ok (exSnapSpecs.map SnapSpec.expected) := by
  have h : encodeSnaps exSnapSpecs = exSnapBytes := by decide +kernel
  have hb : slice (fileOf exSnapBytes).byte 0 (encodeSnaps exSnapSpecs).length = encodeSnaps exSnapSpecs :=
    slice_fileOf (a := []) (c := []) (by simp [h])
  exact (snapshot_table_roundtrip (fileOf exSnapBytes) 0 exSnapSpecs (by decide +kernel) hb
    (by rw [h]; exact Nat.le_of_eq (Nat.zero_add _))).1

/-- **descriptor_kv_roundtrip**: for every key without '=' and without surrounding white space, and every value that does not
    begin or end with a space or a double quote — it MAY contain '=' (and anything else) — the descriptor line
    `key = "value"` is split at the FIRST '=' and yields exactly `(key, value)`. -/
theorem descriptor_kv_roundtrip (key value : Str) (hk : '=' ∉ key)
    (hk1 : ∀ c, key.head? = some c → Regex.isSpace tables c.toNat = false)
    (hk2 : ∀ c, key.getLast? = some c → Regex.isSpace tables c.toNat = false)
    (hv1 : ∀ c, value.head? = some c → c ≠ ' ' ∧ c ≠ '"') (hv2 : ∀ c, value.getLast? = some c → c ≠ ' ' ∧ c ≠ '"') :
    kvLine (key ++ [' ', '=', ' ', '"'] ++ value ++ ['"']) = (key, value) := by
  have := kvLine_padded key [' '] [' ', '"'] value ['"'] (by simp [hk]) (by simp; decide) (by simp) (by simp) hk1 hk2 hv1 hv2
  simpa using this

/-- the same for the unquoted form `key=value` -/
theorem descriptor_kv_roundtrip_unquoted (key value : Str) (hk : '=' ∉ key)
    (hk1 : ∀ c, key.head? = some c → Regex.isSpace tables c.toNat = false)
    (hk2 : ∀ c, key.getLast? = some c → Regex.isSpace tables c.toNat = false)
    (hv1 : ∀ c, value.head? = some c → c ≠ ' ' ∧ c ≠ '"') (hv2 : ∀ c, value.getLast? = some c → c ≠ ' ' ∧ c ≠ '"') :
    kvLine (key ++ '=' :: value) = (key, value) := by
  simpa using kvLine_padded key [] [] value [] (by simpa using hk) (by simp) (by simp) (by simp) hk1 hk2 hv1 hv2

/-- **descriptor_line_is_kv**: `DiskDescriptor.parse` (the model C10 uses) on a one-line text that is a setting line — not empty,
    not a comment, not an extent line — stores exactly that line's `kvLine`: under `ddb` when the key starts with "ddb.", under
    the header attributes otherwise. Together with `descriptor_kv_roundtrip` this is the round trip through `parse`. -/
theorem descriptor_line_is_kv (line : Str) (hnl : '\n' ∉ line) (hstrip : strip line = line) (hne : line.isEmpty = false)
    (hc : startsWith line ['#'] = false)
    (hx : Extracted.vmdk.EXTENT_PREFIXES.any (fun p => startsWith line p.toList) = false) :
    (parse line).attr = (if startsWith (kvLine line).1 "ddb.".toList then [] else [kvLine line]) ∧
    (parse line).ddb = (if startsWith (kvLine line).1 "ddb.".toList then [kvLine line] else []) ∧
    (parse line).extents = [] := by
  unfold parse
  rw [splitOn_no_sep '\n' line hnl]
  simp only [List.foldl_cons, List.foldl_nil, hstrip, hne, hc, hx, Bool.false_eq_true, or_self, if_false, kvLine]
  have hd : "ddb.".toList = ['d', 'd', 'b', '.'] := by decide
  split <;> rename_i h <;> rw [hd] at h <;> simp [dictSet, h, hd]

/-- non-vacuity, through the whole `DiskDescriptor.parse`: values containing '=' keep everything after the first '=' -/
example : (let d := parse ("# Disk DescriptorFile\nversion=1\nparentFileNameHint=\"/vmfs/volumes/ds=01/base disk.vmdk\"\n" ++
                          "ddb.comment = \"owner=alice; note=a = b\"\n").toList
           (d.attr, d.ddb)) =
    ([("version".toList, "1".toList), ("parentFileNameHint".toList, "/vmfs/volumes/ds=01/base disk.vmdk".toList)],
     [("ddb.comment".toList, "owner=alice; note=a = b".toList)]) := by
  -- `toList` of each of the two literals, not of their concatenation
  rw [String.toList_append]
  decide +kernel

/-- **max_seq_header_chosen**: for any two headers the one used is one of the two, and no header has a larger sequence number. -/
theorem max_seq_header_chosen (h1 h2 : VHeader) :
    (chooseHeader h1 h2 = h1 ∨ chooseHeader h1 h2 = h2) ∧ h1.seq ≤ (chooseHeader h1 h2).seq ∧ h2.seq ≤ (chooseHeader h1 h2).seq := by
  unfold chooseHeader
  split <;> simp <;> omega

/-- with distinct sequence numbers the choice is the unique header with the larger number, in either order -/
theorem max_seq_header_unique (h1 h2 : VHeader) (hne : h1.seq ≠ h2.seq) :
    chooseHeader h1 h2 = (if h1.seq < h2.seq then h2 else h1) := by
  unfold chooseHeader
  split <;> split <;> first | rfl | omega

/-- **parent_locator_dict_roundtrip** (the dictionary half of `parent_locator_roundtrip`; the entry table decode is
    `Vhdx.parseLocator`, whose layout is pinned by `locator_layout_spec` and exercised by the harness): for every list of
    key/value pairs with pairwise distinct keys — any count, any UTF-16 strings — the exposed dictionary is that list, in
    table order. -/
theorem parent_locator_dict_roundtrip (es : List (Bytes × Bytes)) (h : (es.map (·.1)).Nodup) : locatorDict es = es := by
  have := locatorDict_distinct_aux es [] h (by intro _ _ x hx; cases hx)
  simpa [locatorDict] using this

/-- **parent_locator_roundtrip_stored** (strings anywhere): if the file stores a parent locator at `off` — the 20-byte header
    (locator type GUID, reserved, key_value_count), the table of 12-byte entries (key_offset, value_offset, key_length,
    value_length; little endian, at the extracted layout) and, for every entry, the key / value bytes at the recorded
    offsets (relative to the locator) with the recorded lengths, ANYWHERE in the file: any order, gaps, shared strings
    (`LocStored`) — then `ParentLocator.__init__` (`Vhdx.parseLocator`) returns the locator type and exactly the
    key/value list in table order; with pairwise distinct keys the exposed dictionary is that list. -/
theorem parent_locator_roundtrip_stored (fh : File) (off : Nat) (ty : Bytes) (es : List LocEntry)
    (h : LocStored fh off ty es) (hd : (es.map (·.key)).Nodup) :
    Vhdx.parseLocator fh off = .ok (.parentLocator ty (es.map fun e => (e.key, e.value))) ∧
    locatorDict (es.map fun e => (e.key, e.value)) = es.map fun e => (e.key, e.value) := by
  refine ⟨parseLocator_stored fh off ty es h, parent_locator_dict_roundtrip _ ?_⟩
  simpa [List.map_map, Function.comp_def] using hd

/-- **parent_locator_roundtrip** (the writer `encodeLocator`): for EVERY list of (key, value) byte strings (UTF-16-LE
    code units; any count < 2^16, any lengths < 2^16 incl. empty, total size < 2^32) with pairwise distinct keys, parsing the
    encoded locator blob — header, entry table, string area with the strings back to back — returns the locator type and
    exactly that list, and the exposed dictionary is the list, in table order. -/
theorem parent_locator_roundtrip (fh : File) (off : Nat) (ty : Bytes) (kvs : List (Bytes × Bytes))
    (hty : ty.length = 16) (hcnt : kvs.length < 2 ^ 16)
    (hkv : ∀ kv ∈ kvs, kv.1.length < 2 ^ 16 ∧ kv.2.length < 2 ^ 16)
    (hlen : (encodeLocator ty kvs).length < 2 ^ 32)
    (hbytes : slice fh.byte off (encodeLocator ty kvs).length = encodeLocator ty kvs)
    (hsz : off + (encodeLocator ty kvs).length ≤ fh.size) (hd : (kvs.map (·.1)).Nodup) :
    Vhdx.parseLocator fh off = .ok (.parentLocator ty kvs) ∧ locatorDict kvs = kvs := by
  have hs := encodeLocator_stored fh off ty kvs hty hcnt hkv hlen hbytes hsz
  have := parseLocator_stored fh off ty _ hs
  rw [packEntries_kv] at this
  exact ⟨this, parent_locator_dict_roundtrip kvs hd⟩

/-- non-vacuity: a locator with three entries ("a" → "b", a surrogate pair key → empty value, "parent_linkage" → a GUID-like
    string) written at offset 3 of a file -/
def exLocKvs : List (Bytes × Bytes) :=
  [([0x61, 0], [0x62, 0]), ([0x3D, 0xD8, 0x00, 0xDE], []), ([0x70, 0, 0x6C, 0], [0x7B, 0, 0x31, 0, 0x7D, 0])]
def exLocTy : Bytes := (List.range 16).map UInt8.ofNat
def exLocFile : File := fileOf ([9, 9, 9] ++ encodeLocator exLocTy exLocKvs ++ [7])
example : exLocTy.length = 16 ∧ (exLocKvs.map (·.1)).Nodup ∧
    slice exLocFile.byte 3 (encodeLocator exLocTy exLocKvs).length = encodeLocator exLocTy exLocKvs ∧
    3 + (encodeLocator exLocTy exLocKvs).length ≤ exLocFile.size :=
  ⟨by decide, by decide, slice_fileOf (a := [9, 9, 9]) rfl, by decide +kernel⟩
example : Vhdx.parseLocator exLocFile 3 = .ok (.parentLocator exLocTy exLocKvs) :=
  (parent_locator_roundtrip exLocFile 3 exLocTy exLocKvs (by decide) (by decide) (by decide) (by decide +kernel)
    (slice_fileOf (a := [9, 9, 9]) rfl) (by decide +kernel) (by decide)).1

example : utf16Valid [0x61, 0, 0x3D, 0xD8, 0x00, 0xDE] = true ∧ utf16Valid [0x3D, 0xD8, 0x61, 0] = false ∧ utf16Valid [0x61] = false := by decide

end Hv.C14
