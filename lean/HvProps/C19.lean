/-
  C19 — XML descriptors are parsed without entity expansion or external fetches.
-/
import HvProofs.Xml
namespace Hv.C19
open Hv Hv.Xml

/-- the installed defusedxml's `fromstring` defaults: DTDs allowed, entities and external references forbidden -/
theorem defaults_spec : defaults = ⟨false, true, true⟩ := by decide

/-- **all_entrypoints_hardened**: every call in dissect.hypervisor that turns text into an element tree resolves to
    `defusedxml.ElementTree.fromstring` with default (hardening) flags; there is exactly one per XML-reading module;
    every import of a non-hardened XML library sits under `if TYPE_CHECKING:` (typing only). -/
theorem all_entrypoints_hardened :
    Extracted.xml.entrypoints.all Entry.ok = true ∧
    Extracted.xml.entrypoints.map (·.1) = expectedFiles ∧
    Extracted.xml.imports.all Import.ok = true := by decide +kernel

theorem hardenedFrom_append (fl : Flags) (pre : List Ev) (hpre : ∀ e ∈ pre, e.forbidden fl = false) :
    ∀ n rest, hardenedFrom fl n (pre ++ rest) = hardenedFrom fl (n + pre.length) rest := by
  induction pre with
  | nil => intro n rest; simp
  | cons e es ih =>
    intro n rest
    have he : e.forbidden fl = false := hpre e (by simp)
    simp only [List.cons_append, hardenedFrom, he, Bool.false_eq_true, if_false, List.length_cons]
    rw [ih (fun x hx => hpre x (by simp [hx]))]
    congr 1; omega

/-- **entity_decl_refused**: any document whose event stream contains an entity declaration, an unparsed-entity
    declaration or an external-entity reference — at any position, with anything after it, nested to any depth — is
    refused by the hardened parser, and the refusal happens at the *first* such event: nothing after it is consumed,
    so nothing is ever expanded or fetched (the result does not depend on the rest of the document). -/
theorem entity_decl_refused (pre post : List Ev) (e : Ev) (he : e.isEntity = true)
    (hpre : ∀ x ∈ pre, x.isEntity = false) :
    hardened defaults (pre ++ e :: post) = .refused (pre.length + 1) := by
  have hf := forbidden_defaults
  unfold hardened
  rw [hardenedFrom_append defaults pre (fun x hx => by rw [hf]; exact hpre x hx)]
  simp [hardenedFrom, hf, he]

/-- corollary in the vocabulary of the property: a declared entity anywhere ⇒ refused (some prefix length) -/
theorem declares_entities_refused (evs : List Ev) (h : ∃ e ∈ evs, e.isEntity = true) :
    ∃ k, hardened defaults evs = .refused k ∧ k ≤ evs.length := by
  obtain ⟨e, he, hee⟩ := h
  cases hf : evs.find? Ev.isEntity with
  | none => exact absurd hee (by simpa using List.find?_eq_none.1 hf e he)
  | some b =>
    obtain ⟨hb, pre, post, rfl, hpre⟩ := List.find?_eq_some_iff_append.1 hf
    exact ⟨_, entity_decl_refused pre post b hb (by simpa using hpre), by simp⟩

/-- **no_decl_parses_as_usual**: a document without entity declarations or references is consumed completely,
    exactly as by the plain parser (DOCTYPEs without entities, comments, PIs, notations included). -/
theorem no_decl_parses_as_usual (evs : List Ev) (h : ∀ e ∈ evs, e.isEntity = false) :
    hardened defaults evs = plain evs := by
  have hf := forbidden_defaults
  have := hardenedFrom_append defaults evs (fun x hx => by rw [hf]; exact h x hx) 0 []
  simp only [List.append_nil, Nat.zero_add] at this
  simp [hardened, plain, this, hardenedFrom]

/-! non-vacuity: a billion-laughs prolog is refused at its first declaration; a DOCTYPE without entities parses -/
example : hardened defaults [.pi, .comment, .doctype, .entityDecl, .entityDecl, .startEl, .text, .endEl] = .refused 4 := by decide
example : hardened defaults [.doctype, .notationDecl, .startEl, .text, .endEl] = plain [.doctype, .notationDecl, .startEl, .text, .endEl] := by decide

end Hv.C19
