/-
  C17 — Hyper-V VMCX/VMRS: the decoded tree equals the stored key/value tree.
-/
import HvProofs.HyperV
import HvProofs.HyperVTree
import HvProofs.HyperVLoad
import HvProofs.HyperVDesc
namespace Hv.C17
open Hv Hv.HyperV Hv.Extracted.hyperv

/-! extracted layouts / constants = the VMCX/VMRS ("HyperVStorage" v0x400) format -/
theorem header_layout_spec :
    HyperVStorageHeader.size = 46 ∧ HyperVStorageHeader.signature = ⟨0, 4, false, 0, 32⟩ ∧
    HyperVStorageHeader.sequence_number = ⟨8, 2, false, 0, 16⟩ ∧ HyperVStorageHeader.version = ⟨10, 4, false, 0, 32⟩ ∧
    HyperVStorageHeader.replay_log_offset = ⟨26, 8, false, 0, 64⟩ := ⟨rfl, rfl, rfl, rfl, rfl⟩
theorem replay_log_layout_spec :
    HyperVStorageReplayLog.size = 34 ∧ HyperVStorageReplayLog.signature = ⟨0, 4, false, 0, 32⟩ ∧
    HyperVStorageReplayLog.num_entries = ⟨8, 4, false, 0, 32⟩ ∧ HyperVStorageReplayLogEntry.size = 28 := ⟨rfl, rfl, rfl, rfl⟩
theorem object_table_layout_spec :
    HyperVStorageObjectTable.size = 8 ∧ HyperVStorageObjectTable.signature = ⟨0, 4, false, 0, 32⟩ ∧
    HyperVStorageObjectTable.num_entries = ⟨4, 4, false, 0, 32⟩ ∧
    HyperVStorageObjectTableEntry.size = 18 ∧ HyperVStorageObjectTableEntry.type = ⟨0, 1, false, 0, 8⟩ ∧
    HyperVStorageObjectTableEntry.offset = ⟨5, 8, false, 0, 64⟩ ∧ HyperVStorageObjectTableEntry.size_field = ⟨13, 4, false, 0, 32⟩ ∧
    HyperVStorageObjectTableEntry.allocated = ⟨17, 1, false, 0, 8⟩ := ⟨rfl, rfl, rfl, rfl, rfl, rfl, rfl, rfl⟩
theorem key_table_layout_spec :
    HyperVStorageKeyTable.size = 10 ∧ HyperVStorageKeyTable.signature = ⟨0, 2, false, 0, 16⟩ ∧
    HyperVStorageKeyTable.index = ⟨2, 2, false, 0, 16⟩ ∧ HyperVStorageKeyTable.sequence_number = ⟨4, 2, false, 0, 16⟩ := ⟨rfl, rfl, rfl, rfl⟩
theorem key_entry_layout_spec :
    HyperVStorageKeyTableEntryHeader.size = 21 ∧ HyperVStorageKeyTableEntryHeader.type = ⟨0, 2, false, 0, 16⟩ ∧
    HyperVStorageKeyTableEntryHeader.size_field = ⟨2, 4, false, 0, 32⟩ ∧
    HyperVStorageKeyTableEntryHeader.parent_table_idx = ⟨6, 2, false, 0, 16⟩ ∧
    HyperVStorageKeyTableEntryHeader.parent_offset = ⟨8, 4, false, 0, 32⟩ ∧
    HyperVStorageKeyTableEntryHeader.data_offset = ⟨20, 1, false, 0, 8⟩ := ⟨rfl, rfl, rfl, rfl, rfl, rfl⟩
theorem signatures_spec :
    SIGNATURE_STORAGE_HEADER = 0x01282014 ∧ SIGNATURE_REPLAY_LOG_HEADER = 0x01110003 ∧
    SIGNATURE_OBJECT_TABLE_HEADER = 0x01110001 ∧ SIGNATURE_KEY_TABLE_HEADER = 0x0002 ∧
    FIRST_HEADER_OFFSET = 0 ∧ SECOND_HEADER_OFFSET = 0x1000 ∧ OBJECT_TABLE_OFFSET = 0x2000 := ⟨rfl, rfl, rfl, rfl, rfl, rfl, rfl⟩
theorem object_entry_types_spec :
    ObjectEntryType_names = ["Unknown0", "ObjectTable", "KeyTable", "File", "Free", "Unknown5Header", "ReplayLog", "ChangeTrackingBuffer"] ∧
    ObjectEntryType_values = [0, 1, 2, 3, 4, 5, 6, 7] := ⟨rfl, rfl⟩
theorem key_data_types_spec :
    KeyDataType_names = ["Free", "Unknown", "Int", "UInt", "Double", "String", "Array", "Bool", "Node"] ∧
    KeyDataType_values = [1, 2, 3, 4, 5, 6, 7, 8, 9] ∧ FLAG_FileObjectPointer = 1 := ⟨rfl, rfl, rfl⟩
theorem literals_spec :
    init_ints = [0x400, 0, 0] ∧ flags_ints = [0xFF00, 8] ∧ type_ints = [0xFF] ∧ parent_ints = [0] ∧ pointer_ints = [12] ∧
    pointer_formats = ["<IQ"] ∧ key_ints = [1] ∧ key_formats = ["utf-8"] ∧
    value_ints = [8, 0, 8, 0, 8, 0, 4, 0, 4, 4, 4, 0, 0] ∧
    value_formats = ["<q", "<Q", "<d", "<I", "utf-16-le", "<I"] ∧ keytable_init_ints = [0] := ⟨rfl, rfl, rfl, rfl, rfl, rfl, rfl, rfl, rfl, rfl, rfl⟩


/-- **value_roundtrip**: for every value of the six leaf types inside its type's range — signed 64-bit integers,
    unsigned 64-bit integers, doubles (as 64-bit patterns), strings (as well-formed UTF-16 code-unit lists), byte arrays,
    booleans — decoding the stored bytes (the value's encoding followed by *any* slack bytes in the entry) with the
    stored type returns exactly that value, type included. -/
theorem value_roundtrip (v : Value) (hv : v.inRange) (slack : Bytes) :
    decodeValue v.typ false (encodeValue v ++ slack) = .ok v :=
  decodeValue_encodeValue v hv slack

/-- **unsigned_is_not_signed**: the bytes of an unsigned value with the top bit set decode to that value under
    `KeyDataType.UInt` and to a *different, negative* number under `KeyDataType.Int` — the type decides. -/
theorem unsigned_is_not_signed (v : Nat) (h1 : 2 ^ 63 ≤ v) (h2 : v < 2 ^ 64) (slack : Bytes) :
    decodeValue tUInt false (leBytes 8 v ++ slack) = .ok (.uint v) ∧
    decodeValue tInt false (leBytes 8 v ++ slack) = .ok (.int ((v : Int) - (2 ^ 64 : Nat))) ∧
    ((v : Int) - (2 ^ 64 : Nat)) < 0 := by
  refine ⟨decodeValue_encodeValue (.uint v) h2 slack, ?_, by omega⟩
  rw [decodeValue_int, unpack_leBytes, if_pos rfl, toSigned, Nat.mod_eq_of_lt (by omega), if_neg (by omega)]
  rfl

/-- **bool_any_nonzero**: a boolean is stored as a 32-bit word; every non-zero word is `True`. -/
theorem bool_any_nonzero (raw : Nat) (h : raw < 2 ^ 32) (slack : Bytes) :
    decodeValue tBool false (leBytes 4 raw ++ slack) = .ok (.bool (decide (raw ≠ 0))) := by
  rw [decodeValue_bool, unpack_unsigned 4 raw slack (by simpa using h)]
  simp [Except.map]

/-- **file_object_value**: a string or byte array held in a separate file object — the entry carries the flag bit and
    a 12-byte (size, offset) pointer, the object table lists a File object at that offset (of any size: the read is
    clamped to it), the bytes at the offset are the value without a length prefix — decodes to the value. -/
theorem file_object_value (f : File) (fos : List (Nat × Nat)) (v : Value) (hs : (∃ us, v = .str us) ∨ (∃ b, v = .bytes b))
    (hv : v.inRange) (pidx poff ck ins : Nat) (key slack : Bytes) (off n o osz : Nat)
    (hn : n < 2 ^ 32) (ho : o < 2 ^ 63) (hl : fos.lookup o = some osz)
    (hr : f.read o (min n osz) = encodeFoValue v) :
    valueOf f fos ((SEntry.keyed (v.typ + 256) pidx poff ck ins key (leBytes 4 n ++ leBytes 8 o ++ slack)).parsed off) = .ok v := by
  have hr' : decodeValue v.typ true (f.read o (min n osz)) = .ok v := by
    rw [hr]
    rcases hs with ⟨us, rfl⟩ | ⟨b, rfl⟩
    · exact decodeValue_fo_unitsBytes us hv.1 hv.2.1
    · exact decodeValue_bytes_fo b
  have hk := kind_of_typ v true ((SEntry.keyed (v.typ + 256) pidx poff ck ins key (leBytes 4 n ++ leBytes 8 o ++ slack)).parsed off) rfl
  have hd : (key ++ [0] ++ (leBytes 4 n ++ leBytes 8 o ++ slack)).drop (key.length + 1) = leBytes 4 n ++ (leBytes 8 o ++ slack) := by
    rw [List.drop_left' (by simp), List.append_assoc]
  have p12 : PTR_LEN = 12 := by decide
  have t12 : ((leBytes 4 n ++ (leBytes 8 o ++ slack)).take 12).length = 12 := by simp; omega
  have hsz : leNat ((leBytes 4 n ++ (leBytes 8 o ++ slack)).take 4) = n := by
    rw [take_leBytes_append, leNat_leBytes_lt 4 n (by simpa using hn)]
  have hof : leNat (((leBytes 4 n ++ (leBytes 8 o ++ slack)).drop 4).take 8) = o := by
    rw [drop_leBytes_append, take_leBytes_append, leNat_leBytes_lt 8 o (by simp; omega)]
  have ho' : ¬ o ≥ 2 ^ 63 := by omega
  simp only [valueOf, entryData, hk.2, if_true, hk.1]
  simp only [SEntry.parsed, SEntry.keyed, hd, p12, t12, ne_eq, not_true_eq_false, if_false, hsz, hof, hl, ho', hr']

/-- **entry_walk**: for every list of stored entries — nodes, values, free entries of any size anywhere in between,
    any flags, any parent references, any checksums — the entry loop over the concatenation of their encodings
    (followed by anything) returns every entry at its offset with its header fields and body; the loop ends exactly
    at the declared table size. -/
theorem entry_walk (ss : List SEntry) (hs : ∀ s ∈ ss, s.ok) (tail : Bytes) (fuel off : Nat) (hf : ss.length ≤ fuel) :
    walkEntries fuel (encodeEntries ss ++ tail) off (off + totalSize ss) = .ok (parsedFrom ss off) :=
  by
  obtain ⟨k, rfl⟩ := Nat.exists_eq_add_of_le hf
  rw [walkEntries_prefix ss hs tail _ k off (Nat.le_refl _), walkEntries_end _ _ _ _ (Nat.lt_irrefl _)]
  simp [Except.map]

/-- **entry_walk_zero_terminated**: the same entries closed by an all-zero header (size 0) inside a larger table. -/
theorem entry_walk_zero_terminated (ss : List SEntry) (hs : ∀ s ∈ ss, s.ok) (tail : Bytes) (size fuel off : Nat)
    (hf : ss.length < fuel) (hsz : off + totalSize ss < size) :
    walkEntries fuel (encodeEntries ss ++ (zeros EH ++ tail)) off size = .ok (parsedFrom ss off) :=
  by
  obtain ⟨k, rfl⟩ := Nat.exists_eq_add_of_lt hf
  rw [Nat.add_assoc, walkEntries_prefix ss hs _ size (k + 1) off (Nat.le_of_lt hsz), walkEntries_zero _ _ _ _ (Nat.succ_ne_zero k)]
  simp [Except.map]

/-- **free_entries_ignored**: linking a table's entries is linking its non-free entries — free entries (which keep
    their place in the offset lookup) contribute no key, no value and no child. -/
theorem free_entries_ignored (kts : List (Nat × List KeyTable)) (idx : Nat) (es : List Entry) :
    linkEntries kts idx es = linkEntries kts idx (es.filter (fun e => e.kind ≠ tFree)) :=
  by rw [linkEntries_eq_mapE, linkEntries_eq_mapE]; simp [nonFree]

/-- **active_header_max_seq**: the header used is one of the two and no header has a larger sequence number
    (a tie goes to the second header). -/
theorem active_header_max_seq (h1 h2 : Header) :
    (chooseHeader h1 h2 = h1 ∨ chooseHeader h1 h2 = h2) ∧ h1.seq ≤ (chooseHeader h1 h2).seq ∧ h2.seq ≤ (chooseHeader h1 h2).seq ∧
    (h1.seq = h2.seq → chooseHeader h1 h2 = h2) := by
  unfold chooseHeader
  split
  · exact ⟨.inl rfl, Nat.le_refl _, by omega, by omega⟩
  · exact ⟨.inr rfl, by omega, Nat.le_refl _, fun _ => rfl⟩

/-- **active_table_max_seq**: for every list of key tables met while walking the object tables, in any order, the
    table used for an index (for linking *and* for parent lookups) is one of the registered tables of that index and
    none of them has a larger sequence number. -/
theorem active_table_max_seq (ts : List KeyTable) (idx : Nat) (t : KeyTable) (h : activeTable (registerAll ts) idx = some t) :
    t ∈ ts ∧ t.index = idx ∧ ∀ u ∈ ts, u.index = idx → u.seq ≤ t.seq := by
  obtain ⟨hsorted, hmem, _⟩ := RegInv_registerAll ts idx
  rw [activeTable_eq_head?] at h
  obtain ⟨rest, hl⟩ := List.head?_eq_some_iff.1 h
  rw [hl] at hsorted hmem
  have ht := (hmem t).1 (by simp)
  refine ⟨ht.1, ht.2, fun u hu hidx => ?_⟩
  rcases List.mem_cons.1 ((hmem u).2 ⟨hu, hidx⟩) with rfl | hu'
  · exact Nat.le_refl _
  · exact (List.pairwise_cons.1 hsorted).1 u hu'

/-- **active_table_exists**: an index for which some table was registered has an active table. -/
theorem active_table_exists (ts : List KeyTable) (u : KeyTable) (hu : u ∈ ts) : ∃ t, activeTable (registerAll ts) u.index = some t := by
  rw [activeTable_eq_head?]
  have hm := ((RegInv_registerAll ts u.index).2.1 u).2 ⟨hu, rfl⟩
  cases hl : tablesOf (registerAll ts) u.index with
  | nil => rw [hl] at hm; cases hm
  | cons t r => exact ⟨t, rfl⟩

/-- **tree_decode_partial**: for every one-table layout — any index and sequence number, any list of stored entries
    (nodes, values with slack, free entries in between) — the table parses to its header fields and to *all* entries
    at their offsets; and every stored value entry yields exactly its key, its parent reference (table index, offset)
    and its typed value.  So the list of (offset, parent, key, typed value) records the tree is assembled from equals
    the stored one ("partial": the records, not yet the tree).
    The assembly of the records into the nested tree through `childrenOf` / `treeOf` (children of X = the records whose
    parent reference is X's (index, offset)), for arbitrary layouts over several tables, is `tree_decode_loaded` /
    `tree_decode_partial_registry`; the file-level plumbing (headers, object tables) is `load_registers_exactly`. -/
theorem tree_decode_partial (index seq ck : Nat) (ss : List SEntry) (hi : index < 2 ^ 16) (hq : seq < 2 ^ 16) (hs : ∀ s ∈ ss, s.ok) :
    parseKeyTable (encodeTable index seq ck ss) (KTH + totalSize ss) = .ok { index, seq, entries := parsedFrom ss KTH } ∧
    ∀ (f : File) (fos : List (Nat × Nat)) (v : Value) (pidx poff ck' ins : Nat) (key slack : Bytes) (off : Nat),
      v.inRange → validUtf8 key = true →
      let e := (SEntry.keyed v.typ pidx poff ck' ins key (encodeValue v ++ slack)).parsed off
      keyOf e = .ok key ∧ valueOf f fos e = .ok v ∧ e.parentIdx = pidx ∧ e.parentOff = poff ∧ e.offset = off ∧ e.kind = v.typ := by
  refine ⟨?_, ?_⟩
  · rw [← List.append_nil (encodeTable _ _ _ _)]
    exact parseKeyTable_stored _ _ _ _ _ _ hi hq hs (Nat.le_refl _) (walkEntries_end _ _ _ _ (Nat.lt_irrefl _))
  intro f fos v pidx poff ck' ins key slack off hv hk
  exact ⟨keyOf_keyed _ _ _ _ _ key _ off hk, valueOf_keyed f fos v hv pidx poff ck' ins key slack off, rfl, rfl, rfl,
    (kind_of_typ v false _ rfl).1⟩

/-- **table_zero_terminated**: the same for a table closed by a zero header inside a larger declared size. -/
theorem table_zero_terminated (index seq ck size : Nat) (ss : List SEntry) (tail : Bytes) (hi : index < 2 ^ 16) (hq : seq < 2 ^ 16)
    (hs : ∀ s ∈ ss, s.ok) (hsz : KTH + totalSize ss < size) :
    parseKeyTable (encodeTable index seq ck ss ++ (zeros EH ++ tail)) size = .ok { index, seq, entries := parsedFrom ss KTH } :=
  parseKeyTable_stored _ _ _ _ _ _ hi hq hs (Nat.le_of_lt hsz)
    (walkEntries_zero _ _ _ _ (by have := length_le_totalSize ss; have : KTH = 10 := KTH_eq; omega))

/-- **object_walk_terminates** (also a C11 obligation): for every file, `HyperVFile.__init__` up to the linking phase —
    headers, replay log, the object-table walk with its once-per-offset rule, every key table's entry loop — returns
    or raises; the model's fuel (`size + 1` tables: loaded tables have distinct offsets inside the file) never runs out. -/
theorem object_walk_terminates (f : File) : load f ≠ .error .nonTermination := load_halts f

/-- **entry_loop_terminates**: the entry loop of a key table ends for every buffer and every declared size. -/
theorem entry_loop_terminates (raw : Bytes) (size : Nat) : parseKeyTable raw size ≠ .error .nonTermination :=
  parseKeyTable_halts raw size

/-- **tree_fuel_suffices**: for *every* list of links in which an entry reference (table index, offset) names one link —
    arbitrary parent references, cycles, self-parents, orphans included — and every link `l` that is `d` parent steps
    below the root, `treeOf` with fuel `fuel ≥ #links − d` never reports exhausted fuel: root paths cannot repeat a link
    (depth is a function of the link, pigeonhole), cycles are unreachable from the root. -/
theorem tree_fuel_suffices (f : File) (fos : List (Nat × Nat)) (links : List Link) (hu : UniqueRefs links)
    (fuel d : Nat) (l : Link) (ha : Anc links d l) (hf : links.length ≤ fuel + d) :
    treeOf f fos links fuel l ≠ .error .nonTermination :=
  treeOf_halts f fos links hu fuel d l ha hf

/-- **links_have_unique_refs**: the links of every file that opens satisfy that hypothesis (one registry entry per
    table index; strictly increasing entry offsets inside a table). -/
theorem links_have_unique_refs (f : File) (L : Loaded) (h : openFile f = .ok L) : UniqueRefs L.links :=
  openFile_uniqueRefs f L h

/-- **tree_assembly_terminates** (also a C11 obligation): for every file — any bytes, any parent references —
    `as_dict()` and the typed walk of the model return or raise; the fuel `#links + 1` of `treeOf` is never exhausted,
    nor is any other fuel of the model (headers, object tables, entry loops, linking). -/
theorem tree_assembly_terminates (f : File) : asDict f ≠ .error .nonTermination ∧ typedTree f ≠ .error .nonTermination := by
  rw [asDict_eq, typedTree_eq]
  split
  next _ herr => exact ⟨(openFile_halts f).of_error herr, (openFile_halts f).of_error herr⟩
  · rename_i L h
    have hu := openFile_uniqueRefs f L h
    exact ⟨dictOf_halts f L hu _ fun _ => rootA_halts, dictOf_halts f L hu _ fun _ => childStep_halts⟩

/-- **stale_tables_ignored**: whatever other tables were registered for an index — before or after, any number — as long
    as they carry smaller sequence numbers, the table in use for that index (linking *and* parent lookups) is `t`. -/
theorem stale_tables_ignored (ts act : List KeyTable) (h : ActiveOf ts act) (t : KeyTable) (ht : t ∈ act) :
    activeTable (registerAll ts) t.index = some t :=
  activeTable_of_act ts act h t ht

/-- **stored_value_encodes**: a stored value entry (key ‖ NUL ‖ encoded value ‖ slack) is an `EncT` leaf with its key. -/
theorem stored_value_encodes (f : File) (fos : List (Nat × Nat)) (all : List (Nat × Entry)) (i : Nat) (v : Value) (hv : v.inRange)
    (pidx poff ck ins : Nat) (key slack : Bytes) (off : Nat) (hk : validUtf8 key = true) :
    let e := (SEntry.keyed v.typ pidx poff ck ins key (encodeValue v ++ slack)).parsed off
    EncT f fos all (.leaf v) (i, e) ∧ keyOf e = .ok key := by
  intro e
  have hkind := (kind_of_typ v false e rfl).1
  refine ⟨?_, keyOf_keyed _ _ _ _ _ key _ off hk⟩
  simp only [EncT]
  refine ⟨?_, valueOf_keyed f fos v hv pidx poff ck ins key slack off⟩
  rw [hkind]
  cases v <;> simp only [Value.typ] <;> decide

/-- **tree_decode_loaded**: for *any* registry the object-table walk produced (`load f = ok reg`): if every linkable
    entry of the active tables has a resolvable parent and a valid key and the root-level entries store the children
    `cs` (`EncT`, recursively: any nesting depth, children of a node found by their parent reference in any table,
    values inline or in file objects), then the typed walk returns `node cs`, and so does `as_dict()` when the root
    children are nodes. Proved by induction on the tree. -/
theorem tree_decode_loaded (f : File) (reg : Reg) (hload : load f = .ok reg) (hne : ∀ p ∈ reg.keyTables, p.2 ≠ [])
    (cs : List (Bytes × Tree)) (hlink : Linkable reg.keyTables (allEntries reg.keyTables)) (hnd : (cs.map Prod.fst).Nodup)
    (henc : EncT.EncL f reg.fileObjects (allEntries reg.keyTables) cs ((allEntries reg.keyTables).filter (fun x => pref x.2 = none))) :
    typedTree f = .ok (.node cs) ∧ ((∀ kt ∈ cs, ∃ cs', kt.2 = .node cs') → asDict f = .ok (.node cs)) :=
  Hv.HyperV.tree_decode_loaded f reg hload hne cs hlink hnd henc

/-- **tree_decode_partial_registry** — `Encodes lay cs f → decode f = ok (node cs)` for layouts with any number of key
    tables, entries distributed over them, parents referenced by (table index, offset) through the table *in use* for
    that index, any number of stale competitors with lower sequence numbers registered before or after, free entries,
    unreachable (orphan / cyclic) entries, inline and file-object values.
    "Partial" refers to the bytes: `Encodes` has its first clause stated on the model's object-table walk — "`load f`
    registers exactly the tables `lay.tables` in this order and the File objects `lay.fos`"; `load_registers_exactly` supplies that clause from the bytes of headers and object tables, and
    `hyperv_file_roundtrip` is the composition. -/
theorem tree_decode_partial_registry (lay : Layout) (cs : List (Bytes × Tree)) (f : File) (h : Encodes lay cs f) :
    typedTree f = .ok (.node cs) ∧ ((∀ kt ∈ cs, ∃ cs', kt.2 = .node cs') → asDict f = .ok (.node cs)) := by
  obtain ⟨⟨reg, hload, hk, hf⟩, hact, hlink, hnd, henc⟩ := h
  have hall : allEntries reg.keyTables = actEntries lay.act := by rw [hk]; exact allEntries_registerAll _ _ hact
  apply tree_decode_of_load f reg hload
  · rw [hall]
    intro ie hie
    obtain ⟨hp, hk'⟩ := hlink ie hie
    exact ⟨by rw [hk]; exact parentOf_of_ok _ _ hact ie.2 hp, hk'⟩
  · exact hnd
  · rw [hall, hf]; exact henc

/-! non-vacuity of `Encodes` on the example file `exFile` of HvProofs/HyperV.lean (second header active, stale copy of table 1 registered *after*
    the active one, file object): the first clause (what `load` registers), `ActiveOf`, and the shape of the linkable
    entries (1 root entry, 5 children of (1, 10) spread over two tables); the decoded tree itself is `exCheck`.
    `exFile` is given in packed form (`packedFile`); it is the file the writer lays out from `exPhys`. -/
example : exFile = exPhys.file := (fileOf_eq_packed _ _).symm
example : (match load exFile with
    | .ok reg => decide (reg.keyTables = registerAll exTs) && decide (reg.fileObjects = [(0x7000, 0x1000)])
    | .error _ => false) = true := by decide +kernel
example : exAct.map KeyTable.index = firstIdx (exTs.map KeyTable.index) ∧
    ∀ t ∈ exAct, t ∈ exTs ∧ ∀ u ∈ exTs, u.index = t.index → u = t ∨ u.seq < t.seq := by decide +kernel
example : (actEntries exAct).length = 6 ∧ ((actEntries exAct).filter (fun x => pref x.2 = none)).length = 1 ∧
    ((actEntries exAct).filter (fun x => pref x.2 = some (1, 10))).length = 5 := by decide +kernel

/-! non-vacuity: the same file, the writer's layout of `exPhys` — second header active (higher sequence number), an
    object table listing the active table of index 1 (sequence 5) *before* a stale copy (sequence 1, same
    offsets, different content), an unallocated entry, a self-referencing object-table entry, a File object; a free
    entry inside the table; children in another table; a string held in the file object; a UInt with the top bit set.
    `as_dict` of the model is the stored tree. -/
example : exCheck = true := by decide +kernel
example : (exT1 ++ exT1old ++ exT2).all (fun s => decide (s.typ < 2 ^ 16 ∧ s.pidx < 2 ^ 16 ∧ s.poff < 2 ^ 32 ∧ s.doff < 2 ^ 8 ∧ s.size < 2 ^ 32))
    = true := by decide +kernel
example : (Value.uint (2 ^ 64 - 1)).inRange ∧ (Value.int (-5)).inRange ∧ (Value.str [104, 105]).inRange :=
  ⟨by simp [Value.inRange], by simp [Value.inRange], by simp [Value.inRange, validUnits, isHigh, isLow]⟩

/-- **load_registers_exactly** — the lemma "layout bytes ⇒ `load` registers exactly these tables": for every well-formed
    physical description `d` (`Phys.WF`, decidable: two file headers of which the one with the larger sequence number — the
    second on a tie — carries the signature, version 0x400 and the offset of a replay log; any number of object tables, the
    first at 0x2000, whose *allocated* ObjectTable / KeyTable / ReplayLog entries point at an object table / a key-table
    region of exactly the entry's size / a replay log of the description, while File, Free, unknown-type and unallocated
    entries hold anything; key tables with any stored entries, ending exactly or with a zero terminator followed by
    anything; blobs; all regions disjoint and inside the file), `HyperVFile.__init__` up to the linking phase succeeds
    on the bytes `d.file` the writer lays out, and its registry is `registerAll d.regTables` — the key tables met by the
    abstract breadth-first walk over the description (each object table once per offset, in first-in first-out order;
    unallocated entries skipped; stale copies included, in walk order) — with exactly the File objects `d.regFos`. -/
theorem load_registers_exactly (d : Phys) (h : d.WF) :
    ∃ reg, load d.file = .ok reg ∧ reg.keyTables = registerAll d.regTables ∧ reg.fileObjects = d.regFos :=
  load_encode d h

/-- **hyperv_file_roundtrip** — `as_dict()` of the written file is the described tree: for every well-formed description `d`
    (`Desc.WF`, decidable: a well-formed physical layout; among the key tables the walk registers every index has a
    table with a strictly largest sequence number; every non-free entry of those tables has parent index 0 or names an
    entry of a table in use, and a valid UTF-8 key; the entries with parent index 0 store the root children `d.cs` —
    recursively: a Node's children are exactly the entries, in any table in use, whose parent reference is its (table
    index, offset); values inline or in File objects) whose root children are Nodes, the model of
    `HyperVFile(fh).as_dict()` on the bytes returns `d.tree`. Composed from `load_registers_exactly` and
    `tree_decode_partial_registry`. -/
theorem hyperv_file_roundtrip (d : Desc) (h : d.WF) (hn : d.rootsAreNodes = true) : asDict d.file = .ok d.tree :=
  (tree_decode_partial_registry _ d.cs d.file (desc_encodes d h)).2 (rootsAreNodes_spec d hn)

/-- **hyperv_file_roundtrip_typed**: the typed walk (`.type` / `.value` / `.children` from `HyperVFile.root` down) returns
    the described tree also when leaf values sit directly below the root. -/
theorem hyperv_file_roundtrip_typed (d : Desc) (h : d.WF) : typedTree d.file = .ok d.tree :=
  (tree_decode_partial_registry _ d.cs d.file (desc_encodes d h)).1

/-! non-vacuity: `exDesc` — two object tables (the second reached through the first, a self-reference ignored), second header
    active, a counted replay-log entry, a stale copy of table 1 registered after the active one and once more unallocated,
    a zero-terminated table with a tail, a string in a File object, free entries — is well formed; so `as_dict()` of
    the bytes the writer lays out is its tree. -/
example : exDesc.WF := exDesc_wf
example : exDesc.phys.regTables.map (fun t => (t.index, t.seq)) = [(1, 5), (2, 9), (1, 1)] ∧ exDesc.phys.regFos = [(0x7000, 0x1000)] := by
  decide +kernel
example : asDict exDesc.file = .ok exDesc.tree := hyperv_file_roundtrip exDesc exDesc_wf (by decide +kernel)

end Hv.C17
