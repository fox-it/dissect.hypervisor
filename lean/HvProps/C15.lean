/-
  C15 — encrypted VMX: unlocking with the correct passphrase returns exactly the original configuration
  (every cipher / MAC / KDF of the tables, any rounds, salt, content length); any failure leaves the
  visible configuration untouched; a success implies the stored MAC equals the HMAC of the plaintext,
  which is a function of the IV and of every ciphertext byte.

  The primitives (PBKDF2, HMAC, AES-CBC, base64, int(), UTF-8, the .vmx dictionary syntax) are parameters
  (`Crypto`); what a theorem needs of them is a hypothesis, never an axiom.
-/
import HvProofs.Vmx
namespace Hv.C15
open Hv Hv.Vmx

/-! extracted tables and literals = the format -/
theorem cipher_key_sizes_spec :
    Extracted.vmx.CIPHER_KEY_SIZES = [(asc "AES-256", 32), (asc "AES-192", 24), (asc "AES-128", 16)] := by
  repeat rw [asc_ofList]
  decide +kernel
theorem hmac_map_spec :
    Extracted.vmx.HMAC_MAP = [(asc "HMAC-SHA-1", asc "sha1", 20), (asc "HMAC-SHA-1-128", asc "sha1", 16),
      (asc "HMAC-SHA-256", asc "sha256", 32)] := by
  repeat rw [asc_ofList]
  decide +kernel
theorem pass2key_map_spec :
    Extracted.vmx.PASS2KEY_MAP = [(asc "PBKDF2-HMAC-SHA-1", asc "sha1"), (asc "PBKDF2-HMAC-SHA-256", asc "sha256")] := by
  repeat rw [asc_ofList]
  decide +kernel
theorem grammar_literals_spec :
    identKeySafe = asc "vmware:key" ∧ identList = asc "list" ∧ identPair = asc "pair" ∧ identPhrase = asc "phrase" ∧
    [kPass2key, kCipher, kRounds, kSalt, kKey] = [asc "pass2key", asc "cipher", asc "rounds", asc "salt", asc "key"] ∧
    kKeySafe = asc "encryption.keysafe" ∧ kData = asc "encryption.data" ∧ kEncrypted = asc "encryption.keysafe" ∧
    [sepSafe, sepLoc, sepPhrase, sepDict, sepKV, chOpen, chClose, chComma] = (asc "///:=(),") := by
  repeat rw [asc_ofList]
  decide +kernel
theorem decrypt_hmac_probe_spec :
    Extracted.vmx.decrypt_hmac_probe = [16, 16, 1, 16] ∧ ivLen = 16 ∧ ctStart = 16 ∧ padMin = 1 ∧ padMax = 16 :=
  ⟨rfl, ivLen_eq, ctStart_eq, padMin_eq, padMax_eq⟩
theorem split_list_regex_spec : listRegex = asc "\\((.+)\\)" := by decide +kernel

/-- **tables_total**: every advertised cipher, MAC and key-derivation name is in its table with the
    advertised parameters (so all 3 × 3 × 2 combinations reach the primitives with the right arguments). -/
theorem tables_total :
    cipherKeySize (asc "AES-128") = some 16 ∧ cipherKeySize (asc "AES-192") = some 24 ∧ cipherKeySize (asc "AES-256") = some 32 ∧
    hmacInfo (asc "HMAC-SHA-1") = some (asc "sha1", 20) ∧ hmacInfo (asc "HMAC-SHA-1-128") = some (asc "sha1", 16) ∧
    hmacInfo (asc "HMAC-SHA-256") = some (asc "sha256", 32) ∧
    pass2keyHash (asc "PBKDF2-HMAC-SHA-1") = some (asc "sha1") ∧ pass2keyHash (asc "PBKDF2-HMAC-SHA-256") = some (asc "sha256") := by
  repeat rw [asc_ofList]
  decide +kernel

/-- **pkcs7_strip_roundtrip**: for *every* plaintext (any length, any last byte — including a text that ends in
    bytes equal to its own pad length, e.g. 6 bytes ending in `\n`), validating and removing the padding of
    `p ‖ pad(p)` as `_decrypt_hmac` does (all pad bytes checked, exactly the last byte's count removed) gives back `p`. -/
theorem pkcs7_strip_roundtrip (p : Bytes) : strip (p ++ pad p) = .ok p := strip_pad p

/-- **decrypt_hmac_roundtrip**: for any primitives whose CBC decryption inverts `enc` on block-aligned input
    (hypothesis), any MAC name of the table, any key, IV, plaintext: `_decrypt_hmac` of
    `IV ‖ enc(p ‖ pad) ‖ HMAC(key, p)[:n]` is `p`. -/
theorem decrypt_hmac_roundtrip (c : Crypto) (enc : Bytes → Bytes → Bytes → Bytes)
    (hinv : ∀ k iv pt, pt.length % 16 = 0 → c.cbcDecrypt k iv (enc k iv pt) = .ok pt)
    (macName alg : Bytes) (n : Nat) (hm : hmacInfo macName = some (alg, n))
    (key iv p tag : Bytes) (hiv : iv.length = 16) (htag : c.hmac alg key p = .ok tag) (hn : n ≤ tag.length) :
    decryptHmac c key (sealBlob enc tag n key iv p) macName = .ok p :=
  decryptHmac_seal c enc hinv ⟨hm, hiv, htag, hn⟩

/-- **keysafe_roundtrip**: `KeySafe.from_text` of a rendered key safe
    `vmware:key/list/(pair/(phrase/esc(id)/esc(dict),esc(mac),esc(b64 data)),…)` is the list of pairs it was
    rendered from — any number of pairs (≥ 1), any ids / salts / names (every non-alphanumeric byte
    percent-encoded), for any base64 and integer printers the primitives invert. -/
theorem keysafe_roundtrip (c : Crypto) (b64 : Bytes → Bytes) (dec : Int → Bytes)
    (hb : ∀ x, c.b64decode (b64 x) = .ok x) (hd : ∀ n, c.parseInt (dec n) = .ok n)
    (ks : List PairSpec) (hne : ks ≠ []) (hk : ∀ ps ∈ ks, ps.mac ≠ [] ∧ b64 ps.data ≠ []) :
    fromText c (renderKeySafe b64 dec ks) = .ok (ks.map PairSpec.toLoc) :=
  fromText_render c b64 dec hb hd ks hne hk

/-- **split_list_roundtrip**: `_split_list` of `(m1,m2,…)` returns the members, for any non-empty balanced
    members without a comma outside parentheses and without a newline (induction over the character loop). -/
theorem split_list_roundtrip (items : List Bytes) (hne : items ≠ []) (h : ∀ it ∈ items, Item it)
    (hnl : ∀ it ∈ items, avoids [10] it = true) :
    splitList (40 :: (joinComma items ++ [41])) = .ok items :=
  splitList_join items hne h hnl

/-- **unquote_roundtrip**: percent-decoding inverts percent-encoding, whichever bytes are kept literal
    (never `%`) and whichever hex case is written. -/
theorem unquote_roundtrip (keep : UInt8 → Bool) (upper : Bool) (s : Bytes) : pctDecode (pctEncode keep upper s) = s :=
  pctDecode_pctEncode keep upper s

/-- **unlock_roundtrip**: a .vmx whose key safe starts with a pair sealed for the passphrase
    (`data = IV ‖ enc(kek, type=key:cipher=…:key=b64(dk)) ‖ MAC`, `kek` the unwrapped key) and whose
    `encryption.data` is the configuration sealed under `dk` with the same MAC unlocks to exactly the
    configuration's entries merged into the visible ones — for every MAC of the table (`hm`), every
    KDF/cipher the unwrap accepts (`hk`), any rounds, salt, IVs, content. -/
theorem unlock_roundtrip (c : Crypto) (enc : Bytes → Bytes → Bytes → Bytes) (b64 : Bytes → Bytes) (dec : Int → Bytes)
    (hinv : ∀ k iv pt, pt.length % 16 = 0 → c.cbcDecrypt k iv (enc k iv pt) = .ok pt)
    (hb : ∀ x, c.b64decode (b64 x) = .ok x) (hd : ∀ n, c.parseInt (dec n) = .ok n)
    (attr new : Attr) (ps : PairSpec) (rest : List PairSpec) (pw kek iv iv2 tag tag2 cn dk alg cfg ed : Bytes) (n : Nat)
    (hks : attrGet attr kKeySafe = some (renderKeySafe b64 dec (ps :: rest)))
    (hdata : attrGet attr kData = some ed) (hed : c.b64decode ed = .ok (sealBlob enc tag2 n dk iv2 cfg))
    (hps : ps.data = sealBlob enc tag n kek iv (renderKeyDict b64 cn dk))
    (hall : ∀ q ∈ ps :: rest, q.mac ≠ [] ∧ b64 q.data ≠ [])
    (hm : hmacInfo ps.mac = some (alg, n)) (hk : unwrap c ps.phrase pw = .ok kek)
    (hiv : iv.length = 16) (hiv2 : iv2.length = 16)
    (htag : c.hmac alg kek (renderKeyDict b64 cn dk) = .ok tag) (hn : n ≤ tag.length)
    (hu : c.utf8ok (renderKeyDict b64 cn dk) = .ok true)
    (htag2 : c.hmac alg dk cfg = .ok tag2) (hn2 : n ≤ tag2.length)
    (hu2 : c.utf8ok cfg = .ok true) (hpd : c.parseDict cfg = .ok new) :
    unlock c attr pw = (.ok (), attrUpdate attr new) := by
  have hun : unsealWithPhrase c pw ((ps :: rest).map PairSpec.toLoc) = .ok (dk, ps.mac) := by
    rw [List.map_cons, PairSpec.toLoc, unsealWithPhrase, hps,
      unlockPair_sealed c enc b64 hinv hb ps.phrase pw hk ⟨hm, hiv, htag, hn⟩ hu]
  rw [unlock, unlockCore_of_locs hks hdata (fromText_render c b64 dec hb hd (ps :: rest) (by simp) hall), hun]
  simp only [bind, Except.bind, hed, decryptHmac_seal c enc hinv ⟨hm, hiv2, htag2, hn2⟩, hu2, hpd]
  simp only [Bool.true_eq_false, ↓reduceIte]

/-- **fail_closed**: whatever the input and the primitives, an unlock that raises leaves `attr` as it was
    (the update happens in the success branch only). -/
theorem fail_closed (c : Crypto) (attr : Attr) (pw : Bytes) (e : VErr) (h : (unlock c attr pw).1 = .error e) :
    (unlock c attr pw).2 = attr := by
  unfold unlock at h ⊢
  split
  · rename_i new hc; rw [hc] at h; cases h
  · rfl

/-- a success is exactly: both stages verified, and `attr` is the old one updated with the decrypted
    entries. -/
theorem unlock_ok_iff (c : Crypto) (attr : Attr) (pw : Bytes) :
    (unlock c attr pw).1 = .ok () ↔ ∃ new, unlockCore c attr pw = .ok new ∧ (unlock c attr pw).2 = attrUpdate attr new := by
  unfold unlock
  constructor
  · intro h
    split at h
    · rename_i new hc; exact ⟨new, hc, by simp⟩
    · cases h
  · rintro ⟨new, hc, _⟩; rw [hc]

/-- **wrong_mac_is_error**: if the (truncated) HMAC of the decrypted, unpadded text differs from the stored
    MAC, `_decrypt_hmac` raises (a ValueError) — for all inputs. -/
theorem wrong_mac_is_error (c : Crypto) (key data macName alg dec pt tag : Bytes) (n : Nat)
    (hm : hmacInfo macName = some (alg, n))
    (hd : c.cbcDecrypt key (data.take 16) ((negSplit data n).1.drop 16) = .ok dec) (hs : strip dec = .ok pt)
    (ht : c.hmac alg key pt = .ok tag) (hne : tag.take n ≠ (negSplit data n).2) :
    decryptHmac c key data macName = .error .value := by
  unfold decryptHmac
  simp only [hm, ivLen_eq, ctStart_eq, hd, bind, Except.bind, hs, ht]
  rw [if_pos hne]

/-- **mac_covers_plaintext**: a successful `_decrypt_hmac` means: the MAC name is in the table with stored
    size `n`; the plaintext is the unpadded CBC decryption of `data[16:-n]` under `data[:16]` — a function of
    the IV and of every ciphertext byte; and the first `n` bytes of `HMAC(key, plaintext)` equal the stored
    MAC `data[-n:]`.  (That an altered byte changes the HMAC is the primitive's property, trusted.) -/
theorem mac_covers_plaintext (c : Crypto) (key data macName pt : Bytes) (h : decryptHmac c key data macName = .ok pt) :
    ∃ alg n dec tag, hmacInfo macName = some (alg, n) ∧
      c.cbcDecrypt key (data.take 16) ((negSplit data n).1.drop 16) = .ok dec ∧ strip dec = .ok pt ∧
      c.hmac alg key pt = .ok tag ∧ tag.take n = (negSplit data n).2 :=
  decryptHmac_ok h

/-- **unseal_authenticated**: the key `unseal_with_phrase` returns was obtained from a phrase pair of the key
    safe whose wrapped data verified under the key derived from this passphrase. -/
theorem unseal_authenticated (c : Crypto) (pw : Bytes) (locs : List Loc) (k mac : Bytes)
    (h : unsealWithPhrase c pw locs = .ok (k, mac)) :
    ∃ p data, Loc.pair (.phrase p) mac data ∈ locs ∧ unlockPair c p mac data pw = .ok k :=
  unseal_ok h

/-- **unwrap_is_function_of_locator**: the derived key is PBKDF2 with the table's hash for the KDF name and
    the table's key size for the cipher name, over (passphrase, salt, rounds) — and nothing else: two
    locators that agree on these fields unwrap alike whatever their phrase id (no state, no memo). -/
theorem unwrap_is_function_of_locator (c : Crypto) (p q : Phrase) (pw : Bytes)
    (h1 : p.pass2key = q.pass2key) (h2 : p.cipher = q.cipher) (h3 : p.rounds = q.rounds) (h4 : p.salt = q.salt) :
    unwrap c p pw = unwrap c q pw ∧
    (∀ k, unwrap c p pw = .ok k → ∃ alg n, pass2keyHash p.pass2key = some alg ∧ cipherKeySize p.cipher = some n ∧
      c.pbkdf2 alg pw p.salt p.rounds n = .ok k) := by
  refine ⟨by simp only [unwrap, h1, h2, h3, h4], ?_⟩
  intro k hk
  unfold unwrap deriveKey at hk
  split at hk
  · cases hk
  · rename_i alg ha
    split at hk
    · cases hk
    · rename_i n hn
      exact ⟨alg, n, ha, hn, hk⟩

/-! non-vacuity: a toy instance of the primitives satisfies the laws the round-trip theorems assume, and on a
    concrete encrypted .vmx (HMAC-SHA-1-128, a 6-byte configuration ending in `\n` = its own pad length):
    correct passphrase → the configuration; other passphrase / one altered ciphertext byte → error and `attr`
    unchanged.  The key safe is read back by `fromText_render`; the unsealing and decryption stages are evaluated by
    the kernel. -/
example : (∀ k iv pt, pt.length % 16 = 0 → toy.cbcDecrypt k iv (toyEnc k iv pt) = .ok pt) ∧
    (∀ x, toy.b64decode (id x) = .ok x) ∧ (∀ n, toy.parseInt (toyDec n) = .ok n) := toy_laws

example : unlock toy exAttr exPw = (.ok (), exAttr ++ [(asc "ab", asc "cd\n")]) := by
  have h : unlockCore toy exAttr exPw = .ok [(asc "ab", asc "cd\n")] := by
    rw [exAttr, unlockCore_of_locs (exEntries_get _ _).1 (exEntries_get _ _).2 exSafe_locs, exUnseal]; decide +kernel
  rw [unlock, h]
  exact congrArg (Prod.mk _) (exEntries_update _ _ (asc "ab") _ (by decide +kernel) (by decide +kernel) (by decide +kernel))
example : unlock toy exAttr (asc "Secret") = (.error .value, exAttr) := by
  have h : unlockCore toy exAttr (asc "Secret") = .error .value := by
    rw [exAttr, unlockCore_of_locs (exEntries_get _ _).1 (exEntries_get _ _).2 exSafe_locs]; decide +kernel
  rw [unlock, h]
example : unlock toy exTampered exPw = (.error .value, exTampered) := by
  have h : unlockCore toy exTampered exPw = .error .value := by
    rw [exTampered, unlockCore_of_locs (exEntries_get _ _).1 (exEntries_get _ _).2 exSafe_locs, exUnseal]; decide +kernel
  rw [unlock, h]
/-- **padding_authenticated**: the padding step succeeds only on `p ‖ n bytes of value n` with 1 ≤ n ≤ 16 — every
    padding byte is checked, so an altered padding byte (or an empty / unpadded text) is refused. -/
theorem padding_authenticated (d p : Bytes) (h : strip d = .ok p) :
    ∃ n, 1 ≤ n ∧ n ≤ 16 ∧ d = p ++ List.replicate n (UInt8.ofNat n) := by
  unfold strip at h
  split at h
  · rename_i hc
    cases h
    rw [padMin_eq, padMax_eq] at hc
    refine ⟨padLen d, hc.1, hc.2.1, ?_⟩
    rw [← hc.2.2, List.take_append_drop]
  · cases h

/-- a text that is not of that shape — the empty text included — is refused with a ValueError (so `unseal_with_phrase`
    moves on to the next locator). -/
theorem bad_padding_is_error (d : Bytes) (h : ∀ p n, 1 ≤ n → n ≤ 16 → d ≠ p ++ List.replicate n (UInt8.ofNat n)) :
    strip d = .error .value := by
  cases hs : strip d with
  | ok p => obtain ⟨n, h1, h2, he⟩ := padding_authenticated d p hs; exact absurd he (h p n h1 h2)
  | error e =>
    unfold strip at hs
    split at hs
    · cases hs
    · cases hs; rfl

/-- **altered_byte_refused_or_mac_input_changes**: a successful `_decrypt_hmac` means the CBC decryption of
    `data[16:-n]` under `data[:16]` is *exactly* `plaintext ‖ k bytes of value k` (1 ≤ k ≤ 16) and the stored MAC
    `data[-n:]` is the truncated HMAC of that plaintext: every decrypted byte is either MAC input or a checked
    padding byte, so any alteration that survives changes the MAC input (refusing that is HMAC's property). -/
theorem altered_byte_refused_or_mac_input_changes (c : Crypto) (key data macName pt : Bytes)
    (h : decryptHmac c key data macName = .ok pt) :
    ∃ alg n k tag, hmacInfo macName = some (alg, n) ∧ 1 ≤ k ∧ k ≤ 16 ∧
      c.cbcDecrypt key (data.take 16) ((negSplit data n).1.drop 16) = .ok (pt ++ List.replicate k (UInt8.ofNat k)) ∧
      c.hmac alg key pt = .ok tag ∧ tag.take n = (negSplit data n).2 := by
  obtain ⟨alg, n, dec, tag, hm, hd, hs, ht, he⟩ := decryptHmac_ok h
  obtain ⟨k, h1, h2, hk⟩ := padding_authenticated _ _ hs
  exact ⟨alg, n, k, tag, hm, h1, h2, hk ▸ hd, ht, he⟩

/-- a ciphertext byte altered so that it decrypts to padding (finding D26): refused -/
example : exPadTampered ≠ exAttr ∧ unlock toy exPadTampered exPw = (.error .value, exPadTampered) := by
  have h : unlockCore toy exPadTampered exPw = .error .value := by
    rw [exPadTampered, unlockCore_of_locs (exEntries_get _ _).1 (exEntries_get _ _).2 exSafe_locs, exUnseal]; decide +kernel
  exact ⟨mt (congrArg fun a => a.getLast?.map (·.2)) (by decide +kernel), by rw [unlock, h]⟩

example : exCfg.getLast? = some 10 ∧ (pad exCfg).length = 10 ∧ strip (exCfg ++ pad exCfg) = .ok exCfg := by decide +kernel

end Hv.C15
