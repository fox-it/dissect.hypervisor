import HvProofs.Basic
import HvProofs.Lists
import HvProofs.BlockLoop
import HvProofs.Outcome
import HvProofs.Hdd
import HvProofs.Vmtar
import HvProofs.VmtarEnc
import HvProofs.Wide
import HvProofs.Vmx
import HvProofs.Layers
import HvProofs.VhdxDiff
import HvProofs.Concat
import HvProofs.Qcow2Bits
import HvProofs.Qcow2Runs
import HvProofs.Qcow2
import HvProofs.Qcow2Stream
import HvProofs.FootprintBasic
import HvProofs.Footprint
import HvProofs.FootprintVhdxOpen
import HvProofs.FootprintVmdk
import HvProofs.FootprintQcow2
import HvProofs.VmdkComp
import HvProofs.Gates
import HvProofs.MetaEnc
import HvProofs.Resolve
import HvProofs.HyperVDesc
import HvProofs.Regex
import HvProofs.VmdkDesc
import HvProofs.VmdkDescRT
import HvProofs.VmdkDescParse
import HvProofs.ConcatSparse
import HvProofs.Xml
import HvProofs.Configs
import HvProofs.ConfigsOvf
import HvProofs.ConfigsXml
